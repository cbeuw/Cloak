import CloakModel.Lemmas.SenderCore

/-! The closing notice is the LAST frame a stream numbers (`Model/Sender.lean`).

Needs the closed-test of every sending section to sit INSIDE the section (`gOK`: every `lock` is directly followed by
`chk` or `cas`), which is what /repo 6ee9036 established for `ReadFrom`.  The invariant `CI` says: while `closed` is
unset no frame carries the closing flag and no thread is past a `cas`; once it is set, the mutex holder either cannot
number anything any more (`quiet`) or is the closing call about to number its one notice (`closerPending`), and
every other thread will run into a closed-test right after its next `lock`. -/

namespace SN

/-- every `lock` of the program is directly followed by a closed-test (`chk`) or the closing CAS -/
def gOK : List Instr → Bool
  | [] => true
  | .lock :: p => (match p with | .chk :: _ => true | .cas :: _ => true | _ => false) && gOK p
  | _ :: p => gOK p

/-- what follows a `cas` is exactly the closing notice and the end of the section -/
def casTailOK : List Instr → Bool
  | [] => true
  | .cas :: p => (match p with | [.enc true _, .inc, .send _, .unlock] => true | _ => false) && casTailOK p
  | _ :: p => casTailOK p

/-- no closing encode before a `cas` has been passed -/
def casGuardOK : List Instr → Bool
  | [] => true
  | .cas :: _ => true
  | .enc true _ :: _ => false
  | _ :: p => casGuardOK p

/-- the rest of the current section numbers nothing (a closed-test ahead will fail once `closed` is set) -/
def quiet : List Instr → Bool
  | [] => true
  | .unlock :: _ => true
  | .chk :: _ => true
  | .cas :: _ => true
  | .lock :: _ => true
  | .send _ :: p => quiet p
  | .enc _ _ :: _ => false
  | .inc :: _ => false

/-- the closing call between its successful CAS and the numbering of its notice -/
def closerPending (th : Thread) : Bool :=
  match th.prog with
  | [.enc true _, .inc, .send _, .unlock] => true
  | [.inc, .send _, .unlock] => th.pend && (match th.cur with | some f => f.closing | none => false)
  | _ => false

theorem gOK_tail {i : Instr} {p : List Instr} (h : gOK (i :: p) = true) : gOK p = true := by
  cases i <;> simp [gOK] at h ⊢ <;> first | exact h | exact h.2
theorem casTailOK_tail {i : Instr} {p : List Instr} (h : casTailOK (i :: p) = true) : casTailOK p = true := by
  cases i <;> simp [casTailOK] at h ⊢ <;> first | exact h | exact h.2

structure CI (s : State) : Prop where
  prog : ∀ (t : Nat) (th : Thread), s.thr[t]? = some th → gOK th.prog = true ∧ casTailOK th.prog = true
  open_ : s.closed = false → s.clflag = false ∧ (∀ f ∈ s.enc, f.closing = false) ∧
    ∀ (t : Nat) (th : Thread), s.thr[t]? = some th → casGuardOK th.prog = true ∧ (∀ f : Frame, th.cur = some f → f.closing = false)
  holder : s.closed = true → ∀ (t : Nat) (th : Thread), s.thr[t]? = some th → s.lock = some t → quiet th.prog = true ∨ closerPending th = true
  pending : s.closed = true → ∀ (t : Nat) (th : Thread), s.thr[t]? = some th → s.lock = some t → closerPending th = true →
    ∀ f ∈ s.enc, f.closing = false
  last : ∀ (pre : List Frame) (f : Frame) (post : List Frame), s.enc = pre ++ f :: post → f.closing = true → post = []

theorem last_append {enc : List Frame} (h : ∀ f ∈ enc, f.closing = false) (g : Frame) :
    ∀ pre f post, enc ++ [g] = pre ++ f :: post → f.closing = true → post = [] := by
  intro pre f post he hf
  rcases List.eq_nil_or_concat post with hp | ⟨post', x, hp⟩
  · exact hp
  · exfalso
    subst hp
    have : enc ++ [g] = (pre ++ f :: post') ++ [x] := by simp [he]
    have h2 := List.append_inj' this rfl
    have : f ∈ enc := by rw [h2.1]; simp
    have := h f this
    rw [hf] at this; simp at this

theorem quiet_not_pending {p : List Instr} {c : Option Frame} {b : Bool} (h : quiet p = true) :
    closerPending ⟨p, c, b⟩ = false := by
  cases p with
  | nil => rfl
  | cons i p => cases i <;> simp [quiet] at h <;> simp [closerPending]

theorem abort_prog_ok (b : Prop) [Decidable b] :
    gOK (if b then [Instr.unlock] else []) = true ∧ casTailOK (if b then [Instr.unlock] else []) = true ∧
    casGuardOK (if b then [Instr.unlock] else []) = true ∧ quiet (if b then [Instr.unlock] else []) = true := by
  split <;> simp [gOK, casTailOK, casGuardOK, quiet]

/-- `CI.holder` and `CI.pending` in one: what is known of the mutex holder once `closed` is set -/
theorem CI.holds {s : State} (c : CI s) (hc : s.closed = true) {t : Nat} {th : Thread} (hth : s.thr[t]? = some th)
    (hl : s.lock = some t) : quiet th.prog = true ∨ closerPending th = true ∧ ∀ f ∈ s.enc, f.closing = false :=
  (c.holder hc t th hth hl).imp_right fun h => ⟨h, c.pending hc t th hth hl h⟩

/-- assembling `CI` of the state after a step of `t`: the other threads are taken care of by mutual exclusion
(`Step.frame`), what remains to be shown is about `t` and the log -/
theorem ci_of {s s' : State} {t : Nat} {th th' : Thread} (c : CI s) (hth : s.thr[t]? = some th)
    (hfr : ∀ u, u ≠ t → (s'.lock = some u ↔ s.lock = some u) ∧
      (s.lock = some u → s'.seq = s.seq ∧ s'.enc = s.enc ∧ s'.wire = s.wire ∧ s'.closed = s.closed))
    (hthr : s'.thr = s.thr.set t th')
    (hprog : gOK th'.prog = true ∧ casTailOK th'.prog = true)
    (hopen : s'.closed = false → s.closed = false ∧ s'.clflag = false ∧ (∀ f ∈ s'.enc, f.closing = false) ∧
      casGuardOK th'.prog = true ∧ (∀ f : Frame, th'.cur = some f → f.closing = false))
    (hholds : s'.closed = true → s'.lock = some t →
      quiet th'.prog = true ∨ closerPending th' = true ∧ ∀ f ∈ s'.enc, f.closing = false)
    (hlast : ∀ (pre : List Frame) (f : Frame) (post : List Frame), s'.enc = pre ++ f :: post → f.closing = true → post = []) :
    CI s' := by
  -- another thread that holds the mutex after the step held it before it, with the same `closed` and the same log
  have hother : ∀ u, u ≠ t → s'.lock = some u → s.lock = some u ∧ s'.closed = s.closed ∧ s'.enc = s.enc := by
    intro u hu hl
    have hl' := (hfr u hu).1.1 hl
    obtain ⟨_, e, _, e'⟩ := (hfr u hu).2 hl'
    exact ⟨hl', e', e⟩
  refine ⟨?_, ?_, ?_, ?_, hlast⟩
  · rw [hthr]
    exact forall_thr_set hth hprog (fun u uh _ hu => c.prog u uh hu)
  · intro hc
    obtain ⟨h1, h2, h3, h4, h5⟩ := hopen hc
    refine ⟨h2, h3, ?_⟩
    rw [hthr]
    exact forall_thr_set hth ⟨h4, h5⟩ (fun u uh _ hu => (c.open_ h1).2.2 u uh hu)
  · intro hc
    rw [hthr]
    refine forall_thr_set hth (fun hl => (hholds hc hl).imp_right And.left) ?_
    intro u uh hne hu hl
    obtain ⟨a, b, _⟩ := hother u hne hl
    exact c.holder (b ▸ hc) u uh hu a
  · intro hc
    rw [hthr]
    refine forall_thr_set hth (fun hl hp => ?_) ?_
    · rcases hholds hc hl with hq | hq
      · obtain ⟨p, cu, b⟩ := th'
        rw [quiet_not_pending hq] at hp; cases hp
      · exact hq.2
    · intro u uh hne hu hl hp
      obtain ⟨a, b, e⟩ := hother u hne hl
      rw [e]
      exact c.pending (b ▸ hc) u uh hu a hp

theorem step_ci (s s' : State) (t : Nat) (h : Inv s) (c : CI s) (hs : step s t = some s') : CI s' := by
  obtain ⟨th, hth, hst⟩ := step_cases hs
  have htok := h.thr t th hth
  have hfr := fun u (hu : u ≠ t) => hst.frame htok hu
  have hg := c.prog t th hth
  -- while `closed` is unset: what `CI.open_` says, for the thread `t`
  have hop : s.closed = false → s.clflag = false ∧ (∀ f ∈ s.enc, f.closing = false) ∧
      casGuardOK th.prog = true ∧ (∀ f : Frame, th.cur = some f → f.closing = false) := fun hc =>
    ⟨(c.open_ hc).1, (c.open_ hc).2.1, (c.open_ hc).2.2 t th hth⟩
  cases hst with
  | @lock p hp hfree =>
    rw [hp] at hg hop
    -- a closed-test comes next
    have hq : quiet p = true := by
      have := hg.1
      cases p with
      | nil => simp [gOK] at this
      | cons j q => cases j <;> simp [gOK] at this <;> simp [quiet]
    refine ci_of c hth hfr rfl ⟨gOK_tail hg.1, casTailOK_tail hg.2⟩ ?_ (fun _ _ => .inl hq) c.last
    exact fun hc => ⟨hc, (hop hc).1, (hop hc).2.1, by simpa [casGuardOK] using (hop hc).2.2.1, (hop hc).2.2.2⟩
  | unlock hp =>
    rw [hp] at hg hop
    refine ci_of c hth hfr rfl ⟨gOK_tail hg.1, casTailOK_tail hg.2⟩ ?_ (fun _ hl => by cases hl) c.last
    exact fun hc => ⟨hc, (hop hc).1, (hop hc).2.1, by simpa [casGuardOK] using (hop hc).2.2.1, (hop hc).2.2.2⟩
  | chk hp hcl =>
    rw [hp] at hg hop
    refine ci_of c hth hfr rfl ⟨gOK_tail hg.1, casTailOK_tail hg.2⟩ ?_ (fun hc => by simp [hcl] at hc) c.last
    exact fun hc => ⟨hc, (hop hc).1, (hop hc).2.1, by simpa [casGuardOK] using (hop hc).2.2.1, (hop hc).2.2.2⟩
  | @cas p hp hcl =>
    rw [hp] at hg
    -- what follows the CAS is the closing notice
    have htail : closerPending ⟨p, th.cur, th.pend⟩ = true := by
      have h1 := hg.2
      simp only [casTailOK, Bool.and_eq_true] at h1
      have h1 := h1.1
      split at h1
      · simp [closerPending]
      · cases h1
    exact ci_of c hth hfr rfl ⟨gOK_tail hg.1, casTailOK_tail hg.2⟩ (fun hc => by cases hc)
      (fun _ _ => .inr ⟨htail, (hop hcl).2.1⟩) c.last
  | @enc cl pl p hp =>
    rw [hp] at hg hop
    have hmine := htok.inside hp (by simp) (by simp)
    refine ci_of c hth hfr rfl ⟨gOK_tail hg.1, casTailOK_tail hg.2⟩ ?_ ?_ c.last
    · intro hc
      obtain ⟨hflag, henc, hgd, _⟩ := hop hc
      have hclf : cl = false := by cases cl <;> simp [casGuardOK] at hgd ⊢
      subst hclf
      exact ⟨hc, by simp [hflag], henc, by simpa [casGuardOK] using hgd, by simp [hflag]⟩
    · intro hc _
      -- the only pending form that starts with an encode: the closing notice
      rcases c.holds hc hth hmine with hq | ⟨hpe, henc⟩
      · simp [hp, quiet] at hq
      · right
        simp only [closerPending, hp] at hpe ⊢
        split at hpe
        · rename_i heq; cases heq; exact ⟨by simp, henc⟩
        · rename_i heq; cases heq
        · cases hpe
  | @inc p f hp hcur hpend =>
    rw [hp] at hg hop
    have hmine := htok.inside hp (by simp) (by simp)
    rcases Bool.eq_false_or_eq_true s.closed with hcl | hcl
    rotate_left
    · obtain ⟨hflag, henc, hgd, hcf⟩ := hop hcl
      have hf := hcf f hcur
      refine ci_of c hth hfr rfl ⟨gOK_tail hg.1, casTailOK_tail hg.2⟩ ?_ (fun hc => by simp [hcl] at hc) (last_append henc f)
      refine fun _ => ⟨hcl, hflag, ?_, by simpa [casGuardOK] using hgd, by simp [hf]⟩
      intro g hg'
      rcases List.mem_append.1 hg' with h1 | h1
      · exact henc g h1
      · simp at h1; rw [h1]; exact hf
    · rcases c.holds hcl hth hmine with hq | ⟨hpe, henc⟩
      · simp [hp, quiet] at hq
      · refine ci_of c hth hfr rfl ⟨gOK_tail hg.1, casTailOK_tail hg.2⟩ (fun hc => by simp [hcl] at hc) ?_ (last_append henc f)
        intro _ _
        left
        simp only [closerPending, hp] at hpe
        split at hpe
        · rename_i heq; cases heq
        · rename_i heq; cases heq; simp [quiet]
        · cases hpe
  | @send p f hp hcur =>
    rw [hp] at hg hop
    have hmine := htok.inside hp (by simp) (by simp)
    refine ci_of c hth hfr rfl ⟨gOK_tail hg.1, casTailOK_tail hg.2⟩ ?_ ?_ c.last
    · exact fun hc => ⟨hc, (hop hc).1, (hop hc).2.1, by simpa [casGuardOK] using (hop hc).2.2.1, by simp⟩
    · intro hc _
      rcases c.holds hc hth hmine with hq | ⟨hpe, _⟩
      · left; simpa [hp, quiet] using hq
      · simp [closerPending, hp] at hpe
  | @ret i p cl hp _ hcl =>
    have ha := abort_prog_ok (s.lock = some t)
    refine ci_of (s' := abort { s with closed := cl } t) c hth hfr rfl ⟨ha.1, ha.2.1⟩ ?_ (fun _ _ => .inl ha.2.2.2) c.last
    intro hc
    have hc' : s.closed = false := by
      rcases hcl with rfl | ⟨rfl, _⟩
      · exact hc
      · cases hc
    exact ⟨hc', (hop hc').1, (hop hc').2.1, ha.2.2.1, by simp⟩

theorem run_ci : ∀ (sched : List Nat) (s : State), Inv s → CI s → CI (runSched s sched) :=
  fun sched s h c => (run_induct step_ci sched s h c).2

theorem init_ci (progs : List (List Instr))
    (hp : ∀ p ∈ progs, gOK p = true ∧ casTailOK p = true ∧ casGuardOK p = true) : CI (init progs) := by
  have hget : ∀ (t : Nat) (th : Thread), (init progs).thr[t]? = some th → th.prog ∈ progs ∧ th.cur = none := by
    intro t th hth
    simp only [init, List.getElem?_map] at hth
    cases hq : progs[t]? with
    | none => rw [hq] at hth; simp at hth
    | some q =>
      rw [hq] at hth; simp at hth
      subst hth
      exact ⟨List.mem_of_getElem? hq, rfl⟩
  refine ⟨?_, ?_, ?_, ?_, ?_⟩
  · intro t th hth
    have := hp _ (hget t th hth).1
    exact ⟨this.1, this.2.1⟩
  · intro _
    refine ⟨rfl, by intro f hf; simp [init] at hf, ?_⟩
    intro t th hth
    refine ⟨(hp _ (hget t th hth).1).2.2, ?_⟩
    intro f hf; rw [(hget t th hth).2] at hf; simp at hf
  · intro hc; simp [init] at hc
  · intro hc; simp [init] at hc
  · intro pre f post he; simp [init] at he

/-- a closing frame that was handed to a connection is the last frame handed to a connection -/
theorem last_of_sublist {wire enc : List Frame} (hs : wire.Sublist enc)
    (hl : ∀ (pre : List Frame) (f : Frame) (post : List Frame), enc = pre ++ f :: post → f.closing = true → post = []) :
    ∀ (pre : List Frame) (f : Frame) (post : List Frame), wire = pre ++ f :: post → f.closing = true → post = [] := by
  intro pre f post hw hf
  have h1 : (pre ++ [f]) ++ post = wire := by simp [hw]
  rw [← h1] at hs
  obtain ⟨r1, r2, he, hs1, hs2⟩ := List.append_sublist_iff.1 hs
  have hmem : f ∈ r1 := hs1.subset (by simp)
  obtain ⟨a, b, hab⟩ := List.append_of_mem hmem
  have := hl a f (b ++ r2) (by rw [he, hab]; simp) hf
  have hr2 : r2 = [] := (List.append_eq_nil_iff.1 this).2
  rw [hr2] at hs2
  exact List.eq_nil_of_sublist_nil hs2

end SN
