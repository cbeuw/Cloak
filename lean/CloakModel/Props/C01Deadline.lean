import CloakModel.Model.StreamPipeDeadline
import CloakModel.Lemmas.GenBridge
import CloakModel.Gen.Backlog

/-! # C01 with read deadlines: the byte pipe of an ordered stream on a virtual clock

`Model/StreamPipeDeadline.lean` (`streamBufferedPipe.Read/Write/Close/SetReadDeadline/broadcastAfter`).

* `gen_deadline_sp`, `gen_timed_out` — the regenerated facts the model is built from.
* `eval_cases` — the four ways a pass through the loop ends; `wake_cases`, `read_cases` — what that makes of a wake-up and of a
  `Read`.  Everything below rests on these three (the same plan as `Props/C14Deadline.lean`, for the twin model).
* `c01_deadline_prefix` — after ANY sequence of writes, reads of any size (returning, timing out, or parking and being
  woken by a write / close / new deadline / the timer), closes, deadline changes and passages of time: the bytes returned so
  far followed by the bytes still buffered are exactly the bytes the pipe accepted, in order.  A deadline never loses,
  duplicates or reorders a byte.
* `sp_no_deadline_is_plain` — without a deadline a pass through the loop is `RB.read` (the pipe of C01/C02/C03's models).
* `sp_timeout_sound`, `sp_timeout_complete` — `ErrTimeout` ⇔ a deadline is set and reached and EOF is not due (also with
  bytes buffered: the deadline test precedes the data test).
* `c01_returns_by_deadline` — a parked reader under deadline `d` has the timer armed for exactly `d` and `now < d`. -/
set_option linter.unusedVariables false

namespace C01D
open SPD

theorem gen_deadline_sp :
    Gen.Deadline.spDeadlineOrder = true ∧ Gen.Deadline.spSetDeadlineWakes = true ∧ Gen.Deadline.spTimerArms = true ∧
    Gen.StreamClose.pipeEOFFirst = true ∧ Gen.StreamClose.pipeDataBeforeWait = true ∧
    Gen.StreamClose.pipeCloseSetsAndBroadcasts = true ∧ Gen.StreamClose.pipeWriteRefusesClosed = true := by
  and_intros <;> rfl

/-- no method of the pipes replaces, resets or truncates the byte buffer: the model's `buf` changes only by `Write` appending
and `Read` taking from the front (seed C01-8) -/
theorem gen_pipe_buf_stable : Gen.Backlog.pipeBufNeverReplaced = true := rfl

theorem gen_timed_out (d now : Nat) : Gen.Deadline.spTimedOut ((d : Int) - (now : Int)) = true ↔ d ≤ now := by
  unfold Gen.Deadline.spTimedOut
  gen_bool

theorem gen_eof (c : Bool) (b : Bytes) : Gen.StreamClose.pipeEOF c (b.length : Int) = true ↔ (c = true ∧ b = []) := by
  unfold Gen.StreamClose.pipeEOF
  simp only [Bool.and_eq_true, decide_eq_true_eq, Int.natCast_eq_zero, List.length_eq_zero_iff]

theorem eval_cases (s : St) (cap : Nat) :
    (eval s cap = (s, .eof) ∧ s.closed = true ∧ s.buf = []) ∨
    (eval s cap = take s cap ∧ s.buf ≠ []) ∨
    (eval s cap = (s, .timeout) ∧ ∃ d, s.deadline = some d ∧ d ≤ s.now ∧ ¬ (s.closed = true ∧ s.buf = [])) ∨
    (eval s cap = ({ s with timer := s.deadline <|> s.timer }, .park) ∧
      s.buf = [] ∧ s.closed = false ∧ ∀ d, s.deadline = some d → s.now < d) := by
  obtain ⟨buf, closed, now, deadline, timer, pending, out, acc⟩ := s
  simp only [eval, gen_eof, gen_timed_out, List.length_pos_iff]
  by_cases hE : closed = true ∧ buf = []
  · rw [if_pos hE]; exact .inl ⟨rfl, hE⟩
  rw [if_neg hE]
  by_cases hD : buf = []
  · have hc : closed = false := by
      cases closed with
      | false => rfl
      | true => exact absurd ⟨rfl, hD⟩ hE
    cases deadline with
    | none => rw [if_neg (fun h => h hD)]; exact .inr (.inr (.inr ⟨rfl, hD, hc, fun _ h => by cases h⟩))
    | some d =>
      simp only []
      by_cases hX : d ≤ now
      · rw [if_pos hX]; exact .inr (.inr (.inl ⟨rfl, d, rfl, hX, hE⟩))
      · rw [if_neg hX, if_neg (fun h => h hD)]; exact .inr (.inr (.inr ⟨rfl, hD, hc, fun _ h => by cases h; omega⟩))
  · cases deadline with
    | none => rw [if_pos hD]; exact .inr (.inl ⟨rfl, hD⟩)
    | some d =>
      simp only []
      by_cases hX : d ≤ now
      · rw [if_pos hX]; exact .inr (.inr (.inl ⟨rfl, d, rfl, hX, hE⟩))
      · rw [if_neg hX, if_pos hD]; exact .inr (.inl ⟨rfl, hD⟩)

/-- **without a deadline a pass through the loop is the untimed pipe read** (`RB.read`, the pipe inside the reorder buffer
of C01/C02/C03): same answer (parking = `block`), same buffer, same bytes handed out -/
theorem sp_no_deadline_is_plain (s : St) (cap : Nat) (h : s.deadline = none) (sb : RB.SB)
    (hb : sb.buf = s.buf) (hc : sb.closed = s.closed) (ho : sb.out = s.out) :
    (RB.read sb cap).1.buf = (eval s cap).1.buf ∧ (RB.read sb cap).1.out = (eval s cap).1.out ∧
    (eval s cap).2 = (match (RB.read sb cap).2 with | .data b => .data b | .eof => .eof | .block => .park) := by
  unfold RB.read
  rcases eval_cases s cap with ⟨he, h1, h2⟩ | ⟨he, h1⟩ | ⟨_, d, hd, _⟩ | ⟨he, h1, h2, _⟩
  · rw [he, if_pos ⟨by rw [hc, h1], by rw [hb, h2]⟩]
    exact ⟨hb, ho, rfl⟩
  · have hnb : ¬ sb.buf = [] := by rw [hb]; exact h1
    rw [he, if_neg (fun hh => hnb hh.2), if_neg hnb]
    simp only [take, hb, ho]
    exact ⟨trivial, trivial, trivial⟩
  · rw [h] at hd; cases hd
  · have hcl : ¬ (sb.closed = true ∧ sb.buf = []) := by rw [hc, h2]; simp
    rw [he, if_neg hcl, if_pos (by rw [hb, h1])]
    exact ⟨hb, ho, rfl⟩

/-- a read that times out changes nothing -/
theorem sp_timeout_keeps (s : St) (cap : Nat) (h : (eval s cap).2 = .timeout) : (eval s cap).1 = s := by
  rcases eval_cases s cap with ⟨he, _⟩ | ⟨he, _⟩ | ⟨he, _⟩ | ⟨he, _⟩ <;> rw [he] at h ⊢ <;> cases h

theorem sp_timeout_sound (s : St) (cap : Nat) (h : (eval s cap).2 = .timeout) :
    ∃ d, s.deadline = some d ∧ d ≤ s.now ∧ ¬ (s.closed = true ∧ s.buf = []) := by
  rcases eval_cases s cap with ⟨he, _⟩ | ⟨he, _⟩ | ⟨_, hd⟩ | ⟨he, _⟩
  · rw [he] at h; cases h
  · rw [he] at h; cases h
  · exact hd
  · rw [he] at h; cases h

theorem sp_timeout_complete (s : St) (cap d : Nat) (hd : s.deadline = some d) (hle : d ≤ s.now)
    (hne : ¬ (s.closed = true ∧ s.buf = [])) : eval s cap = (s, .timeout) := by
  unfold eval
  have heof : ¬ Gen.StreamClose.pipeEOF s.closed (s.buf.length : Int) = true := fun h => hne ((gen_eof _ _).1 h)
  rw [if_neg heof, hd]
  simp only
  rw [if_pos ((gen_timed_out d s.now).2 hle)]

theorem wake_cases (s : St) (cap : Nat) (h : s.pending = some cap) :
    (wake s).1 = { (take s cap).1 with pending := none } ∨ (wake s).1 = { s with pending := none } ∨
    ((wake s).1 = { s with timer := s.deadline <|> s.timer } ∧ s.buf = [] ∧ s.closed = false ∧ ∀ d, s.deadline = some d → s.now < d) := by
  simp only [wake, h]
  rcases eval_cases s cap with ⟨e, _⟩ | ⟨e, _⟩ | ⟨e, _⟩ | ⟨e, hb⟩ <;> rw [e]
  · exact .inr (.inl rfl)
  · exact .inl rfl
  · exact .inr (.inl rfl)
  · exact .inr (.inr ⟨by rw [← h], hb⟩)

theorem read_cases (s : St) (cap : Nat) (h : s.pending = none) :
    (step s (.r cap)).1 = (take s cap).1 ∨ (step s (.r cap)).1 = s ∨
    ((step s (.r cap)).1 = { s with timer := s.deadline <|> s.timer, pending := some cap } ∧
      s.buf = [] ∧ s.closed = false ∧ ∀ d, s.deadline = some d → s.now < d) := by
  simp only [step, h]
  rcases eval_cases s cap with ⟨e, _⟩ | ⟨e, _⟩ | ⟨e, _⟩ | ⟨e, hb⟩ <;> rw [e]
  · exact .inr (.inl rfl)
  · exact .inl rfl
  · exact .inr (.inl rfl)
  · exact .inr (.inr ⟨rfl, hb⟩)

/-! ## no byte lost, duplicated or reordered -/

def P (s : St) : Prop := s.out ++ s.buf = s.acc

theorem take_P (s : St) (cap : Nat) (h : P s) : P (take s cap).1 := by
  unfold P take
  simp only [List.append_assoc, List.take_append_drop]
  exact h

theorem wake_P (s : St) (h : P s) : P (wake s).1 := by
  cases hp : s.pending with
  | none => simp only [wake, hp]; exact h
  | some cap =>
    rcases wake_cases s cap hp with e | e | ⟨e, _⟩ <;> rw [e]
    · exact take_P s cap h
    · exact h
    · exact h

theorem fire_P (s : St) (t : Nat) (h : P s) : P (fire s t).1 := by
  unfold fire
  split
  · split
    · exact wake_P _ h
    · exact h
  · exact h

theorem step_P (s : St) (op : Op) (h : P s) : P (step s op).1 := by
  cases op with
  | w d =>
    simp only [step]
    split
    · exact h
    · exact wake_P _ (by unfold P at h ⊢; simp only [← List.append_assoc, h])
  | r cap =>
    cases hp : s.pending with
    | some _ => simp only [step, hp]; exact h
    | none =>
      rcases read_cases s cap hp with e | e | ⟨e, _⟩ <;> rw [e]
      · exact take_P s cap h
      · exact h
      · exact h
  | c => exact wake_P _ h
  | dl a => exact wake_P _ h
  | adv dt => exact fire_P _ _ (fire_P _ _ h)

/-- **C01 with read deadlines.**  After ANY sequence of writes, reads of any size — returning at once, timing out, or parking
and being woken later by a write, a close, a new deadline or the timer —, closes, deadline changes and passages of time:
bytes returned so far ++ bytes still buffered = the bytes the pipe accepted, in order. -/
theorem c01_deadline_prefix (ops : List Op) : (run ops).out ++ (run ops).buf = (run ops).acc :=
  List.foldlRecOn (motive := P) ops _ rfl (fun s h op _ => step_P s op h)

/-! ## nothing stays parked past its deadline -/

def Inv (s : St) : Prop :=
  (∀ cap d, s.pending = some cap → s.deadline = some d → s.timer = some d ∧ s.now < d) ∧
  (∀ cap, s.pending = some cap → s.buf = [] ∧ s.closed = false) ∧
  (∀ f, s.timer = some f → s.now < f)

theorem inv_unparked (s : St) (hp : s.pending = none) (ht : ∀ f, s.timer = some f → s.now < f) : Inv s := by
  refine ⟨fun _ _ h => ?_, fun _ h => ?_, ht⟩ <;> rw [hp] at h <;> cases h

theorem inv_parked (s : St) (cap : Nat) (hb : s.buf = [] ∧ s.closed = false) (hlt : ∀ d, s.deadline = some d → s.now < d)
    (ht : ∀ f, s.timer = some f → s.now < f) : Inv { s with timer := s.deadline <|> s.timer, pending := some cap } := by
  refine ⟨fun c d _ hd => ?_, fun c hc => hb, fun f hf => ?_⟩
  · exact ⟨by rw [show s.deadline = some d from hd]; rfl, hlt d hd⟩
  · cases hd : s.deadline with
    | none => exact ht f (by rw [← hf, hd]; rfl)
    | some d => exact hlt f (by rw [← hf, hd]; rfl)

theorem wake_inv (s : St) (ht : ∀ f, s.timer = some f → s.now < f) : Inv (wake s).1 := by
  cases hp : s.pending with
  | none => simp only [wake, hp]; exact inv_unparked s hp ht
  | some cap =>
    rcases wake_cases s cap hp with e | e | ⟨e, hb, hc, hlt⟩ <;> rw [e]
    · exact inv_unparked _ rfl ht
    · exact inv_unparked _ rfl ht
    · have := inv_parked s cap ⟨hb, hc⟩ hlt ht
      rwa [← hp] at this

theorem fire_idle (s : St) (t : Nat) (h : ∀ f, s.timer = some f → t < f) : fire s t = (s, none) := by
  unfold fire
  split
  · next f hf => rw [if_neg (Nat.not_le.2 (h f hf))]
  · rfl

/-- after the timer had its chance, whatever is still armed lies beyond `t` (so `SPD.step`'s second `fire` does nothing) -/
theorem fire_inv (s : St) (t : Nat) (h : Inv s) : Inv (fire s t).1 ∧ ∀ f, (fire s t).1.timer = some f → t < f := by
  unfold fire
  split
  · next f ht =>
    split
    · refine ⟨wake_inv { s with now := max s.now f, timer := none } (fun _ h => by cases h), fun f' hf' => ?_⟩
      exfalso
      cases hp : s.pending with
      | none => simp only [wake, hp] at hf'; cases hf'
      | some cap =>
        rcases wake_cases { s with now := max s.now f, timer := none } cap hp with e | e | ⟨e, _, _, hlt⟩ <;> rw [e] at hf'
        · cases hf'
        · cases hf'
        · cases hd : s.deadline with
          | none => rw [hd] at hf'; cases hf'
          | some d =>
            have hf : some f = some d := ht ▸ (h.1 cap d hp hd).1
            have := hlt d hd
            simp only at this
            cases hf; omega
    · exact ⟨h, fun f' hf' => by rw [ht] at hf'; cases hf'; omega⟩
  · next ht => exact ⟨h, fun f hf => by rw [ht] at hf; cases hf⟩

theorem step_inv (s : St) (op : Op) (h : Inv s) : Inv (step s op).1 := by
  cases op with
  | w d =>
    simp only [step]
    split
    · exact h
    · exact wake_inv _ h.2.2
  | r cap =>
    cases hp : s.pending with
    | some _ => simp only [step, hp]; exact h
    | none =>
      rcases read_cases s cap hp with e | e | ⟨e, hb, hc, hlt⟩ <;> rw [e]
      · exact inv_unparked _ hp h.2.2
      · exact h
      · exact inv_parked s cap ⟨hb, hc⟩ hlt h.2.2
  | c => exact wake_inv _ h.2.2
  | dl a => exact wake_inv _ h.2.2
  | adv dt =>
    obtain ⟨h1, b1⟩ := fire_inv s (s.now + dt) h
    simp only [step, fire_idle _ _ b1]
    exact ⟨fun c d hc hd => ⟨(h1.1 c d hc hd).1, b1 d (h1.1 c d hc hd).1⟩, h1.2.1, b1⟩

theorem run_inv (ops : List Op) : Inv (run ops) :=
  List.foldlRecOn ops _ (inv_unparked _ rfl (fun _ h => by cases h)) (fun s h op _ => step_inv s op h)

/-- **Nothing stays parked past its deadline** (ordered streams): in every reachable state a reader parked while a deadline
`d` is set has `now < d` and the timer armed for exactly `d`; and it is parked only while the pipe is open and empty. -/
theorem c01_returns_by_deadline (ops : List Op) (cap d : Nat)
    (hp : (run ops).pending = some cap) (hd : (run ops).deadline = some d) :
    (run ops).now < d ∧ (run ops).timer = some d ∧ (run ops).buf = [] ∧ (run ops).closed = false := by
  obtain ⟨ht, hlt⟩ := (run_inv ops).1 cap d hp hd
  exact ⟨hlt, ht, (run_inv ops).2.1 cap hp⟩

/-! ### non-vacuity -/

example :
    let ops := [Op.w [1, 2, 3], .dl (some 100), .r 2, .adv 150, .r 5, .dl (some 300), .r 5, .r 5, .w [9], .r 1, .adv 200]
    (run ops).out = [1, 2, 3, 9] ∧ (run ops).acc = [1, 2, 3, 9] ∧ (run ops).pending = none ∧
    ((step (run (ops.take 4)) (.r 5)).2.r = some .timeout) ∧
    ((step (run (ops.take 7)) (.r 5)).2.r = some .park) ∧
    ((step (run (ops.take 8)) (.w [9])).2.woke = some (.data [9])) ∧
    ((step (run (ops.take 10)) (.adv 200)).2.woke = some .timeout) := by
  decide

example :
    let ops := [Op.dl (some 300), .adv 150, .r 5]
    (run ops).pending = some 5 ∧ (run ops).deadline = some 300 ∧ (run ops).timer = some 300 := by decide

end C01D

#print axioms C01D.c01_deadline_prefix
#print axioms C01D.c01_returns_by_deadline
#print axioms C01D.sp_no_deadline_is_plain
#print axioms C01D.sp_timeout_sound

