import CloakModel.Model.SessionOps
import CloakModel.Props.C12

/-! # C12 — `Session.Close` sweeps the connections whether or not the closing notice could be sent

`SO.sessClose` is the Go operation (`closeSession`; for `Close` the closing notice; `closeAll`) as a sequence of
`SM` events. Before /repo's fix `Close` returned the send error before its `closeAll`, so a connection whose
`AddConnection` was under way when the session closed (and which therefore was not there for `send`'s own
`passiveClose` — a repeat — to close) stayed open for ever: the red team's close-while-adding finding. Whether the
sweep is unconditional is read from the source (`Gen.Session.closeSweepsEvenIfNoticeFails`). -/
namespace C12
open SM

/-- a `Close`/`passiveClose` that wins the CAS is, on the session machine, the CAS, the sweep and `closeAll` — whether or
not the notice could be sent (`Gen.Session.closeSweepsEvenIfNoticeFails`) -/
theorem sessClose_sm (sd : SO.Side) (active timer : Bool) (h : (SO.sessClose sd active timer).2 ≠ .repeat_) :
    (SO.sessClose sd active timer).1.sm =
      (step (step (step sd.sm (if timer then .tmoCas else .cas)).1 .sweep).1 .closeAll).1 := by
  have hg := gen_late_conn.2
  generalize he : (if timer = true then Ev.tmoCas else Ev.cas) = e
  unfold SO.sessClose at h ⊢
  simp only [SO.ev, he, hg, if_true] at h ⊢
  split
  · rename_i hr; rw [if_pos hr] at h; exact absurd rfl h
  · split
    · rfl
    · split <;> rfl

/-- the CAS and the sweep leave the connections alone -/
theorem step_broken_conns (s : St) (e : Ev) (he : e = .cas ∨ e = .tmoCas ∨ e = .sweep) :
    (step s e).1.broken = s.broken ∧ (step s e).1.conns = s.conns := by
  rcases he with rfl | rfl | rfl
  · simp only [step]; split <;> exact ⟨rfl, rfl⟩
  · simp only [step]
    split
    · split <;> exact ⟨rfl, rfl⟩
    · exact ⟨rfl, rfl⟩
  · simp only [step]; split <;> exact ⟨rfl, rfl⟩

/-- **C12 (Close, failing notice).** Whatever the state of the side — writes failing or not, called by the
application or by the inactivity timer — the `Close`/`passiveClose` that wins the `closed` CAS marks the switchboard
broken, and (if it was not broken before) leaves every pooled connection closed. -/
theorem c12_close_always_sweeps (sd : SO.Side) (active timer : Bool)
    (h : (SO.sessClose sd active timer).2 ≠ .repeat_) :
    (SO.sessClose sd active timer).1.sm.broken = true ∧
    (sd.sm.broken = false → ∀ c ∈ (SO.sessClose sd active timer).1.sm.conns, c = false) := by
  rw [sessClose_sm sd active timer h]
  generalize hs1 : (step sd.sm (if timer then .tmoCas else .cas)).1 = s1
  generalize hs2 : (step s1 .sweep).1 = s2
  have e1 := step_broken_conns sd.sm (if timer then .tmoCas else .cas) (by cases timer <;> simp)
  have e2 := step_broken_conns s1 .sweep (by simp)
  rw [hs1] at e1; rw [hs2] at e2
  have hb : s2.broken = sd.sm.broken := e2.1.trans e1.1
  cases hbr : s2.broken with
  | true => exact ⟨by simp [step, hbr], fun h0 => by rw [← hb, hbr] at h0; cases h0⟩
  | false => exact ⟨by simp [step, hbr], fun _ => c12_conns s2 hbr⟩

/-- the pinned `Close` (sweep only after a successful send): a side whose writes fail keeps its connection open -/
theorem c12_close_pinned_witness :
    let sd : SO.Side := { sm := { conns := [true] }, wfail := true }
    let sd' := (SO.ev (SO.ev sd .cas).1 .sweep).1     -- what the pinned `Close` did before returning the send error
    sd'.sm.broken = false ∧ sd'.sm.conns = [true] := by decide

end C12

/-! ## a stream refused for a full accept backlog is told so

A stream that arrives while the accept queue is full is refused (31ee1ad: the blocking send under `streamsM` was the
teardown hang). The refusal remembers the id as closed — later frames are dropped, the stream count is not touched — and
queues the id for the session's one `tellRefusals` goroutine, which sends the peer a stream-closing frame: its writes
fail and its readers return instead of waiting on a stream nobody will ever serve. (History: first silent — found by the
review of the repairs; then a registered stream closed by a goroutine per refusal — found by the next review: unbounded
goroutines and buffered frames under a peer that does not read; now a bounded queue and one sender.) The session model
follows the facts; the closing frames each side has put on the wire are part of the state the correspondence compares
after every operation (`sent=`). Assumed: the queue (as long as the backlog) is not full. -/
namespace C12
open SM

theorem gen_refusal :
    Gen.Session.refusedStreamClosedActively = false ∧ Gen.Session.refusedStreamToldFromQueue = true ∧
    Gen.Session.recvEnqueueNonBlocking = true := ⟨rfl, rfl, rfl⟩

/-- **C12 (a refusal leaves the bookkeeping as it found it).** In ANY state of a live session whose accept queue is full,
the frame of an unknown stream `id` is refused, and afterwards the id is remembered as closed while the queue, the count,
the pending updates and the rest of the table are exactly as before: nothing drifts, whatever the number of refusals. -/
theorem c12_refusal_events (s : St) (id : Nat) (hcl : s.closed = false) (hid : hasId id s.tbl = false)
    (hfull : Gen.Session.acceptBacklog ≤ (s.accq.length : Int)) :
    step s (.recvNew id) = ({ s with tbl := (id, .tomb) :: s.tbl }, .refused) := by
  have hg := gen_refusal.1
  simp [step, hcl, hid, hfull, hg]

/-- a side whose accept queue holds `acceptBacklog` streams receives the first frame of yet another stream -/
def fullSide : SO.Side :=
  { sm := { accq := List.replicate Gen.Session.acceptBacklog.toNat 9, tbl := [(9, .opn)], count := 1 } }

/-- the refusal in the model: one closing frame goes out, the id is a tombstone afterwards, the count and the queue are
what they were, the frame's payload is dropped, and later frames of that stream are dropped too -/
theorem c12_refused_is_told :
    let r := SO.recv fullSide 77 0 0 [1, 2, 3] 0 1000
    r.2 = "dropped" ∧ r.1.csent = fullSide.csent + 1 ∧ SO.entOf r.1 77 = some .tomb ∧
    r.1.sm.count = fullSide.sm.count ∧ r.1.sm.accq.length = fullSide.sm.accq.length ∧
    (SO.recv r.1 77 1 0 [4] 0 1000).2 = "dropped" ∧ (SO.recv r.1 77 1 0 [4] 0 1000).1.csent = r.1.csent := by
  set_option maxRecDepth 100000 in decide

end C12
