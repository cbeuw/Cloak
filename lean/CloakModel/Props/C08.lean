import CloakModel.Model.AuthFirst
import CloakModel.Lemmas.ReplayInv
import CloakModel.Lemmas.AuthWindow
import CloakModel.Lemmas.GenBridge

/-! # C08 — A captured handshake can never be replayed successfully

Layers: (1) bridging lemmas about the terms regenerated from `state.go` / `auth.go`
(`Gen.Replay.evict`, `Gen.Replay.keyMask31`, `Gen.Auth.windowReject`, structural facts);
(2) `c08_retention`: the cache machine the driver runs against the real `AuthFirstPacket` never
accepts one (registered key, timestamp) twice, for every history of presentations and clean-ups;
(3) `c08_concurrent`: N simultaneous presentations, any schedule; (4) `c08_altered` / `c08_once`:
the statement about sealed identity blocks, under the idealisations `INT` and `DH12`;
(5) refutation witnesses about the explicit PINNED values (eviction offset `+tolerance`, raw cache key).

On the pinned tree `gen_evict_sound` and `gen_key_canonical` do not hold (the two genuine defects);
they are proved from the facts of the REPAIRED code (`fixes/C08-*.patch`). -/
set_option linter.unusedSimpArgs false
set_option linter.unusedVariables false

namespace C08
open Replay HS

/-! ## 1. What the regenerated terms mean -/

theorem gen_tol_same : Gen.Replay.timestampTolerance = Gen.Auth.timestampTolerance := rfl

/-- the cleaner evicts an entry only when it was last sighted MORE than two tolerances ago.
(Pinned tree: `t·10⁹ < now + tolerance`, i.e. everything — this lemma then fails.) -/
theorem gen_evict_sound : EvictSound Gen.Replay.evict tolS := by
  intro t now
  have ht := gen_tol
  simp only [Gen.Auth.timestampTolerance] at ht
  unfold Gen.Replay.evict
  gen_bool

theorem gen_window_sound : WindowSound G.inWin tolS := by
  intro ts now h
  have ht := gen_tol
  have := (window_exact ts now).1 h
  simp only [Gen.Auth.timestampTolerance] at ht this
  omega

/-- what is registered is the random with bit 255 cleared (pinned tree: mask 255 = the raw bytes) -/
theorem gen_key_canonical : Gen.Replay.keyMask31 = 127 := rfl

/-- structure of `registerRandom`, `UsedRandomCleaner` and `AuthFirstPacket` the model relies on -/
theorem gen_structure :
    Gen.Replay.registerAtomic = true ∧ Gen.Replay.registerBeforeDecrypt = true ∧
    Gen.Replay.replayReturnsBeforeDecrypt = true ∧ Gen.Replay.storesUnixSeconds = true ∧
    Gen.Replay.storeUnconditional = true ∧ Gen.Replay.returnsUsed = true ∧ Gen.Replay.cleanerLocked = true ∧
    Gen.Replay.oneClockReadingPerPresentation = true ∧ Gen.Replay.registerUsesCallersReading = true := by and_intros <;> rfl

theorem keyOf_eq (r : Bytes) : G.keyOf r = clear255 r := by
  unfold G.keyOf canon clear255; rw [gen_key_canonical]; rfl

/-! ## 2. Retention: every history of presentations and clean-ups -/

/-- **C08 (same key, across clean-ups).** In every history of presentations and cleaner passes on a
monotone clock, no two accepted presentations have the same registered key and the same embedded
timestamp.  This is the executable machine `Replay.G.*` built from the regenerated eviction
predicate, window and key canonicalisation. -/
theorem c08_retention (h : List Ev) (hmono : (h.map clockOf).Pairwise (· ≤ ·)) :
    (G.run h).acc.Pairwise (fun a b => ¬ (G.keyOf a.1.rand = G.keyOf b.1.rand ∧ a.1.ts = b.1.ts)) :=
  once_of_sound Gen.Replay.evict G.keyOf G.inWin tolS gen_evict_sound gen_window_sound h hmono

/-- hypotheses of `c08_retention` are satisfiable and the machine really accepts, then refuses the
replay on both sides of a clean-up -/
example :
    let p : Pkt := ⟨List.replicate 32 7, true, true, 1000⟩
    let h := [Ev.present p 1000000000000, Ev.clean 1001000000000, Ev.present p 1002000000000]
    (h.map clockOf).Pairwise (· ≤ ·) ∧ (G.run h).acc.length = 1 := by
  refine ⟨by decide, by decide⟩

/-! ## 3. Simultaneous presentations -/

/-- invariant of the atomic (one test-and-set per goroutine) schedule -/
structure CInv (was : Bool) (s : CSt) : Prop where
  shape : ∀ t ∈ s.ths, t = ⟨[.tas], none⟩ ∨ (t.pc = [] ∧ ∃ b, t.seen = some b)
  cnt : fresh s = if was = false ∧ 0 < finished s then 1 else 0
  pres : s.present = (was || decide (0 < finished s))

theorem fresh_eq (s : CSt) : fresh s = s.ths.countP (fun t => t.seen == some false) := by
  simp [fresh, List.countP_eq_length_filter]
theorem finished_eq (s : CSt) : finished s = s.ths.countP (fun t => t.pc == []) := by
  simp [finished, List.countP_eq_length_filter]

theorem cinv_step (was : Bool) (s : CSt) (h : CInv was s) (i : Nat) : CInv was (cstep s i) := by
  unfold cstep
  cases hi : s.ths[i]? with
  | none => simpa using h
  | some t =>
    simp only
    have hlt : i < s.ths.length := by
      rcases List.getElem?_eq_some_iff.1 hi with ⟨hl, _⟩; exact hl
    have hget : s.ths[i] = t := by
      rcases List.getElem?_eq_some_iff.1 hi with ⟨_, he⟩; exact he
    have hmem : t ∈ s.ths := hget ▸ List.getElem_mem hlt
    rcases h.shape t hmem with rfl | ⟨hpc, b, hb⟩
    · -- the goroutine performs its test-and-set
      simp only
      have hf := h.cnt; have hp := h.pres
      have hfresh' : fresh ⟨true, s.ths.set i ⟨[], some s.present⟩⟩ = fresh s + (if s.present = false then 1 else 0) := by
        rw [fresh_eq, fresh_eq]
        simp only [List.countP_set hlt, hget]
        cases s.present <;> simp
      have hfin' : finished ⟨true, s.ths.set i ⟨[], some s.present⟩⟩ = finished s + 1 := by
        rw [finished_eq, finished_eq]
        simp only [List.countP_set hlt, hget]
        simp
      refine ⟨?_, ?_, ?_⟩
      · intro t' ht'
        rcases List.mem_or_eq_of_mem_set ht' with h1 | h1
        · exact h.shape t' h1
        · right; subst h1; exact ⟨rfl, _, rfl⟩
      · rw [hfresh', hfin', hf]
        cases hw : was
        · by_cases hfin : 0 < finished s
          · simp [hw, hfin] at hp; simp [hp, hfin]
          · have h0 : finished s = 0 := by omega
            simp [hw, h0] at hp; simp [hp, h0]
        · simp [hw] at hp; simp [hp]
      · rw [hfin']; simp
    · -- already finished: no-op
      cases t with
      | mk pc seen => simp only at hpc; subst hpc; simpa using h

theorem cinv_init (was : Bool) (n : Nat) : CInv was (cinit true was n) := by
  have hfin : finished (cinit true was n) = 0 := by
    simp [finished, cinit, prog, List.filter_replicate]
  refine ⟨?_, ?_, ?_⟩
  · intro t ht; left
    simp [cinit, prog] at ht; exact ht.2
  · rw [hfin]; simp [fresh, cinit, prog, List.filter_replicate]
  · rw [hfin]; simp [cinit]

/-- **C08 (concurrent).** N goroutines present one packet simultaneously, in ANY interleaving of the
critical sections the extractor saw in `registerRandom` (`Gen.Replay.registerAtomic`): if the key was
not in the cache, exactly one of those that got through is told "not used"; if it was, none. -/
theorem c08_concurrent (was : Bool) (n : Nat) (sched : List Nat) :
    let s := crun Gen.Replay.registerAtomic was n sched
    fresh s = (if was = false ∧ 0 < finished s then 1 else 0) := by
  have ha : Gen.Replay.registerAtomic = true := gen_structure.1
  rw [ha]
  exact (List.foldlRecOn sched cstep (cinv_init was n) fun s h i _ => cinv_step was s h i).cnt

/-- if lookup and store were two critical sections (e.g. RLock for the lookup, Lock for the store)
two goroutines can both be told "not used" -/
theorem c08_concurrent_witness_split : fresh (crun false false 2 [0, 1, 0, 1]) = 2 := by decide

example : fresh (crun Gen.Replay.registerAtomic false 3 [2, 0, 2, 1]) = 1 := by decide

/-! ## 4. Sealed identity blocks: altered copies, and the full statement -/

/-- a first packet reduced to what `processFirstPacket` extracts from it -/
structure CPkt where
  rand : Bytes
  ct : Bytes
deriving DecidableEq, Repr

inductive CEv | present (p : CPkt) (now : Int) | clean (now : Int)

structure CSt where
  cache : Cache
  acc : List (CPkt × Int)

/-- the server: `AuthFirstPacket` (`HS.authCore`) and `UsedRandomCleaner` (`Replay.G.clean`) -/
def cstepEv (C : Crypto) (sk : Bytes) (s : CSt) : CEv → CSt
  | .present p now =>
    match authCore C sk s.cache p.rand p.ct now with
    | (c, .ok _) => ⟨c, s.acc ++ [(p, now)]⟩
    | (c, _) => ⟨c, s.acc⟩
  | .clean now => ⟨(G.clean ⟨s.cache, []⟩ now).cache, s.acc⟩

def cclock : CEv → Int | .present _ n => n | .clean n => n
def crunEv (C : Crypto) (sk : Bytes) (h : List CEv) : CSt := h.foldl (cstepEv C sk) ⟨[], []⟩
def randsOf : List CEv → List Bytes
  | [] => []
  | .present p _ :: r => p.rand :: randsOf r
  | .clean _ :: r => randsOf r

/-- the plaintext the server obtains for a packet, if any -/
def opened (C : Crypto) (sk : Bytes) (p : CPkt) : Option Bytes :=
  (C.dh sk p.rand).bind (fun s => C.gcmOpen (fit 32 s) (slice p.rand Gen.Handshake.sNonceLo Gen.Handshake.sNonceHi) p.ct)

/-- how the cache machine of section 2 sees a packet -/
def view (C : Crypto) (sk : Bytes) (p : CPkt) : Pkt :=
  { rand := p.rand, reg := (C.dh sk p.rand).isSome,
    ok := match opened C sk p with
      | some pt => !(decide (pt.length < sNeed)) && (plainInfo pt 0).isSome
      | none => false,
    ts := match opened C sk p with | some pt => plainTs pt | none => 0 }

def viewEv (C : Crypto) (sk : Bytes) : CEv → Ev
  | .present p now => .present (view C sk p) now
  | .clean now => .clean now

theorem plainInfo_isSome (pt : Bytes) (a b : Nat) : (plainInfo pt a).isSome = (plainInfo pt b).isSome := by
  unfold plainInfo
  cases pt[Gen.Handshake.sEncIdx]? <;> cases pt[Gen.Handshake.sFlagIdx]? <;> simp [bind, Option.bind]

theorem authCore_some (C : Crypto) (sk : Bytes) (cache : Cache) (rand ct : Bytes) (now : Int) (secret : Bytes)
    (hdh : C.dh sk rand = some secret) :
    authCore C sk cache rand ct now =
      if used cache (G.keyOf rand) = true then
        ((G.keyOf rand, now / 1000000000) :: cache.filter (fun e => decide (e.1 ≠ G.keyOf rand)), .replay)
      else match decryptInfo C ⟨fit 32 secret, rand, ct⟩ now with
        | .ok info => ((G.keyOf rand, now / 1000000000) :: cache.filter (fun e => decide (e.1 ≠ G.keyOf rand)), .ok info)
        | .error e => ((G.keyOf rand, now / 1000000000) :: cache.filter (fun e => decide (e.1 ≠ G.keyOf rand)), .badDecrypt e) := by
  simp only [authCore, authFrag, hdh, register]
  rfl

/-- whether `decryptClientInfo` succeeds, in terms of what opens -/
def decOk (C : Crypto) (f : Fragments) (now : Int) : Bool :=
  match C.gcmOpen f.shared (slice f.rand Gen.Handshake.sNonceLo Gen.Handshake.sNonceHi) f.ct with
  | some pt => !(decide (pt.length < sNeed)) && (plainInfo pt 0).isSome && inWindow (plainTs pt) now
  | none => false

theorem decryptInfo_ok (C : Crypto) (f : Fragments) (now : Int) :
    (∃ info, decryptInfo C f now = .ok info) ↔ decOk C f now = true := by
  simp only [decryptInfo_ok_iff, decOk]
  cases C.gcmOpen f.shared (slice f.rand Gen.Handshake.sNonceLo Gen.Handshake.sNonceHi) f.ct with
  | none => simp
  | some pt =>
    simp only [plainInfo_isSome pt 0 (beNat (slice pt Gen.Handshake.sSidLo Gen.Handshake.sSidHi)),
      Option.isSome_iff_exists, Option.some.injEq, Bool.and_eq_true, Bool.not_eq_true', decide_eq_false_iff_not,
      decide_eq_true_eq]
    exact ⟨fun ⟨i, _, rfl, h1, h2, h3⟩ => ⟨⟨h1, i, h2⟩, h3⟩, fun ⟨⟨h1, i, h2⟩, h3⟩ => ⟨i, _, rfl, h1, h2, h3⟩⟩

theorem view_ok (C : Crypto) (sk : Bytes) (p : CPkt) (now : Int) (secret : Bytes) (hdh : C.dh sk p.rand = some secret) :
    ((view C sk p).ok && G.inWin (view C sk p).ts now) = decOk C ⟨fit 32 secret, p.rand, p.ct⟩ now := by
  simp only [view, opened, hdh, Option.bind_some, decOk]
  cases C.gcmOpen (fit 32 secret) (slice p.rand Gen.Handshake.sNonceLo Gen.Handshake.sNonceHi) p.ct with
  | none => simp
  | some pt => rfl

/-- one step of the server = one step of the cache machine on the packet's view -/
theorem step_sim (C : Crypto) (sk : Bytes) (s : CSt) (e : CEv) :
    (cstepEv C sk s e).cache = (G.stepEv ⟨s.cache, s.acc.map (fun a => (view C sk a.1, a.2))⟩ (viewEv C sk e)).cache ∧
    (cstepEv C sk s e).acc.map (fun a => (view C sk a.1, a.2)) =
      (G.stepEv ⟨s.cache, s.acc.map (fun a => (view C sk a.1, a.2))⟩ (viewEv C sk e)).acc := by
  cases e with
  | clean now => simp [cstepEv, viewEv, G.stepEv, stepEv, G.clean, clean]
  | present p now =>
    simp only [cstepEv, viewEv, G.stepEv, stepEv]
    rw [present_state]
    cases hdh : C.dh sk p.rand with
    | none =>
      have hreg : (view C sk p).reg = false := by simp [view, hdh]
      simp [authCore, hdh, hreg]
    | some secret =>
      have hreg : ¬ (view C sk p).reg = false := by simp [view, hdh]
      rw [if_neg hreg, authCore_some C sk s.cache p.rand p.ct now secret hdh]
      have hvr : (view C sk p).rand = p.rand := rfl
      simp only [hvr]
      by_cases hu : used s.cache (G.keyOf p.rand) = true
      · simp [hu]
      · have hu' : used s.cache (G.keyOf p.rand) = false := by simpa using hu
        simp only [hu, if_false, hu', true_and]
        have hv := view_ok C sk p now secret hdh
        by_cases hd : decOk C ⟨fit 32 secret, p.rand, p.ct⟩ now = true
        · obtain ⟨info, hinfo⟩ := (decryptInfo_ok C _ now).2 hd
          rw [hd] at hv
          have hv2 : (view C sk p).ok = true ∧ G.inWin (view C sk p).ts now = true := by
            simpa [Bool.and_eq_true] using hv
          simp [hinfo, hv2]
        · have hno : ∀ info, decryptInfo C ⟨fit 32 secret, p.rand, p.ct⟩ now ≠ .ok info := by
            intro info hi; exact hd ((decryptInfo_ok C _ now).1 ⟨info, hi⟩)
          have hd' : decOk C ⟨fit 32 secret, p.rand, p.ct⟩ now = false := by simpa using hd
          rw [hd'] at hv
          have hv2 : ¬ ((view C sk p).ok = true ∧ G.inWin (view C sk p).ts now = true) := by
            intro hc; simp [hc.1, hc.2] at hv
          rw [if_neg hv2]
          cases hdi : decryptInfo C ⟨fit 32 secret, p.rand, p.ct⟩ now with
          | ok info => exact absurd hdi (hno info)
          | error e => simp

theorem run_sim (C : Crypto) (sk : Bytes) : ∀ (h : List CEv) (s : CSt),
    (h.foldl (cstepEv C sk) s).acc.map (fun a => (view C sk a.1, a.2)) =
      ((h.map (viewEv C sk)).foldl G.stepEv ⟨s.cache, s.acc.map (fun a => (view C sk a.1, a.2))⟩).acc ∧
    (h.foldl (cstepEv C sk) s).cache =
      ((h.map (viewEv C sk)).foldl G.stepEv ⟨s.cache, s.acc.map (fun a => (view C sk a.1, a.2))⟩).cache := by
  intro h s
  -- the cache machine's state stays the server's state seen through `view`
  have := List.foldl_rel (l := h) (f := cstepEv C sk) (g := fun c e => G.stepEv c (viewEv C sk e))
    (r := fun s c => c = ⟨s.cache, s.acc.map (fun a => (view C sk a.1, a.2))⟩) (a := s) rfl (by
      intro e _ s c hc
      have hs := step_sim C sk s e
      rw [hc]
      cases hst : G.stepEv ⟨s.cache, s.acc.map (fun a => (view C sk a.1, a.2))⟩ (viewEv C sk e) with
      | mk c a => rw [hst] at hs; simp only at hs; rw [hs.1, hs.2])
  rw [List.foldl_map, this]
  exact ⟨rfl, rfl⟩

theorem clock_sim (C : Crypto) (sk : Bytes) (h : List CEv) : (h.map (viewEv C sk)).map clockOf = h.map cclock := by
  rw [List.map_map]
  exact List.map_congr_left fun e _ => by cases e <;> rfl

theorem acc_rand_mem (C : Crypto) (sk : Bytes) : ∀ (h : List CEv) (s : CSt) (U : List Bytes),
    (∀ a ∈ s.acc, a.1.rand ∈ U) → (∀ r ∈ randsOf h, r ∈ U) →
    ∀ a ∈ (h.foldl (cstepEv C sk) s).acc, a.1.rand ∈ U := by
  intro h
  induction h with
  | nil => intro s U hs _; exact hs
  | cons e r ih =>
    intro s U hs hr
    simp only [List.foldl_cons]
    cases e with
    | clean now =>
      apply ih _ U _ (by intro x hx; exact hr x (by simpa [randsOf] using hx))
      simpa [cstepEv] using hs
    | present p now =>
      apply ih _ U _ (by intro x hx; exact hr x (by simp [randsOf, hx]))
      have hp : p.rand ∈ U := hr _ (by simp [randsOf])
      simp only [cstepEv]
      split
      · intro a ha
        rcases List.mem_append.1 ha with ha | ha
        · exact hs a ha
        · simp at ha; subst ha; exact hp
      · exact hs

/-- **C08 (altered copies).** Two packets carrying the SAME sealed identity block which the server
both authenticates have — under `INT` and `DH12` — the same registered cache key and the same
embedded timestamp.  (So the second one meets the entry the first one left.) -/
theorem c08_altered (C : Crypto) (sk : Bytes) (U : Bytes → Prop) (hint : INT C sk U) (hdh : DH12 C sk U)
    (hn : Gen.Handshake.sNonceLo = 0 ∧ Gen.Handshake.sNonceHi = 12)
    (p q : CPkt) (hp : U p.rand) (hq : U q.rand) (hpl : p.rand.length = 32) (hql : q.rand.length = 32)
    (hct : p.ct = q.ct) (hpo : (view C sk p).ok = true) (hqo : (view C sk q).ok = true)
    (hfit : ∀ r s, C.dh sk r = some s → fit 32 s = s) :
    G.keyOf p.rand = G.keyOf q.rand ∧ (view C sk p).ts = (view C sk q).ts := by
  have hsl : ∀ r : Bytes, slice r Gen.Handshake.sNonceLo Gen.Handshake.sNonceHi = r.take 12 := by
    intro r; rw [hn.1, hn.2]; simp [slice]
  simp only [view, opened] at hpo hqo ⊢
  cases hdp : C.dh sk p.rand with
  | none => simp [hdp] at hpo
  | some sp =>
    cases hdq : C.dh sk q.rand with
    | none => simp [hdq] at hqo
    | some sq =>
      simp only [hdp, hdq, Option.bind_some, hsl, hfit _ _ hdp, hfit _ _ hdq] at hpo hqo ⊢
      cases hop : C.gcmOpen sp (p.rand.take 12) p.ct with
      | none => simp [hop] at hpo
      | some ptp =>
        cases hoq : C.gcmOpen sq (q.rand.take 12) q.ct with
        | none => simp [hoq] at hqo
        | some ptq =>
          have h1 : opensUnder C sk p.rand p.ct = some ptp := by simp [opensUnder, hdp, hop]
          have h2 : opensUnder C sk q.rand p.ct = some ptq := by simp [opensUnder, hdq, hct, hoq]
          obtain ⟨hk, hnn⟩ := hint _ _ _ _ _ hp hq h1 h2
          have hkey := hdh _ _ hp hq hpl hql hnn (by simp [hdp]) hk
          rw [hdp, hdq] at hk
          have hss : sp = sq := by simpa using hk
          subst hss
          rw [hnn, hct] at hop
          rw [hop] at hoq
          have : ptp = ptq := by simpa using hoq
          subst this
          exact ⟨by rw [keyOf_eq, keyOf_eq]; exact hkey, rfl⟩

/-- **C08 (full statement).** In every history of presentations of arbitrary packets at arbitrary
server times, interleaved with passes of the replay-cache cleaner at arbitrary moments (monotone
clock), the server accepts at most one packet carrying any given sealed identity block — exact
copies and altered copies alike.  Hypotheses: the idealisations `INT` and `DH12` over the 32-byte
values that are presented, and that the key-agreement output is 32 bytes (`Lawful.dh_len`). -/
theorem c08_once (C : Crypto) (sk : Bytes) (h : List CEv)
    (hmono : (h.map cclock).Pairwise (· ≤ ·))
    (hlen : ∀ r ∈ randsOf h, r.length = 32)
    (hint : INT C sk (· ∈ randsOf h)) (hdh : DH12 C sk (· ∈ randsOf h))
    (hdl : ∀ a b s, C.dh a b = some s → s.length = 32) :
    (crunEv C sk h).acc.Pairwise (fun a b => a.1.ct ≠ b.1.ct) := by
  have hn : Gen.Handshake.sNonceLo = 0 ∧ Gen.Handshake.sNonceHi = 12 := ⟨rfl, rfl⟩
  have hfit : ∀ r s, C.dh sk r = some s → fit 32 s = s := by
    intro r s hs; have := hdl _ _ _ hs
    simp [fit, this, zeros, List.take_of_length_le (Nat.le_of_eq this)]
  have hsim := (run_sim C sk h ⟨[], []⟩).1
  have hret := c08_retention (h.map (viewEv C sk)) (by rw [clock_sim]; exact hmono)
  have hsound : ∀ a ∈ ((h.map (viewEv C sk)).foldl G.stepEv init).acc,
      a.1.reg = true ∧ a.1.ok = true ∧ G.inWin a.1.ts a.2 = true :=
    acc_sound Gen.Replay.evict G.keyOf G.inWin (h.map (viewEv C sk)) init (by simp [init])
  have hmem := acc_rand_mem C sk h ⟨[], []⟩ (randsOf h) (by simp) (by intro r hr; exact hr)
  simp only [List.map_nil] at hsim
  unfold crunEv
  unfold G.run at hret
  have hinit : (init : St) = ⟨[], []⟩ := rfl
  rw [hinit] at hret hsound
  rw [← hsim] at hret hsound
  rw [List.pairwise_map] at hret
  refine hret.imp_of_mem ?_
  intro a b ha hb hne hct
  apply hne
  have hao := (hsound (view C sk a.1, a.2) (List.mem_map.2 ⟨a, ha, rfl⟩)).2.1
  have hbo := (hsound (view C sk b.1, b.2) (List.mem_map.2 ⟨b, hb, rfl⟩)).2.1
  have := c08_altered C sk (· ∈ randsOf h) hint hdh hn a.1 b.1 (hmem a ha) (hmem b hb)
    (hlen _ (hmem a ha)) (hlen _ (hmem b hb)) hct hao hbo hfit
  exact ⟨by simpa [view] using this.1, this.2⟩

/-! ## 5. Refutations for the PINNED values (explicit terms, not `Gen`) -/

/-- eviction predicate and window as the pinned tree has them -/
def pinnedEvict (t now : Int) : Bool := decide ((t * 1000000000 + 0) < (now + 180000000000))
def pinnedWin (ts now : Int) : Bool := decide (now - 180000000000 < ts * 1000000000) && decide (ts * 1000000000 < now + 180000000000)

/-- pinned cleaner (`t < now + tolerance` = every entry): present, clean-up one second later,
present again one second after that — accepted twice -/
theorem c08_retention_witness_pinned :
    let p : Pkt := ⟨List.replicate 32 7, true, true, 1000⟩
    let h := [Ev.present p 1000000000000, Ev.clean 1001000000000, Ev.present p 1002000000000]
    ((h.foldl (stepEv pinnedEvict (canon 127) pinnedWin) init).acc).length = 2 := by decide

/-- **the defect repaired by /repo's "one reading of the clock" fix** (found by the second red-team round): `Replay.present`
uses ONE server time per presentation.  The tree before the fix read the clock twice — `registerRandom` stamped the entry
with the first reading, `decryptClientInfo` judged the window with a later one.  With the current eviction rule
(`t·10⁹ < now − 2·tolerance`) and window: first reading 1 ms before second 1001 (entry time 1000), window reading 1 ms
after it, packet timestamp 1181 (client 179.999 s ahead) — accepted; pass at 1360.5 s — entry 1000 < 1000.5 evicted;
presentation at 1360.6 s — the timestamp is still inside the window: accepted AGAIN.  `present2` is `present` with the two
readings kept apart; the harness replays this history on the real code with a clock that moves 2 ms per reading
(`c08plans` case 3). -/
def present2 (keyOf : Bytes → Bytes) (inWin : Int → Int → Bool) (s : St) (p : Pkt) (nowReg nowWin : Int) : St × Out :=
  if p.reg = false then (s, .early)
  else
    let (c, u) := register s.cache (keyOf p.rand) nowReg
    if u then (⟨c, s.acc⟩, .replay)
    else if p.ok && inWin p.ts nowWin then (⟨c, s.acc ++ [(p, nowWin)]⟩, .accept)
    else (⟨c, s.acc⟩, .reject)

theorem c08_two_readings_witness :
    let p : Pkt := ⟨List.replicate 32 7, true, true, 1181⟩
    let s1 := (present2 G.keyOf G.inWin init p 1000999000000 1001001000000).1
    let s2 := G.clean s1 1360500000000
    let s3 := (G.present s2 p 1360600000000).1
    s3.acc.length = 2 ∧
    -- with one reading (the repaired code) the first presentation is outside the window and nothing is accepted twice
    ((G.present (G.clean (G.present init p 1000999000000).1 1360500000000) p 1360600000000).1).acc.length ≤ 1 := by
  decide

/-- retention of ONE tolerance is not enough either (client clock 179 s ahead) -/
theorem c08_one_tol_insufficient :
    let p : Pkt := ⟨List.replicate 32 7, true, true, 1179⟩
    let h := [Ev.present p 1000000000000, Ev.clean 1181000000000, Ev.present p 1300000000000]
    ((h.foldl (stepEv (fun t now => decide (t * 1000000000 < now - 180000000000)) (canon 127) pinnedWin) init).acc).length = 2 := by decide

theorem xor128_ne (b : UInt8) : b ^^^ 128 ≠ b := fun h =>
  absurd ((UInt8.xor_right_inj b).1 (h.trans UInt8.xor_zero.symm)) (by decide)

theorem canon255 (r : Bytes) : canon 255 r = r := by
  have : (fun b : UInt8 => b &&& UInt8.ofNat 255) = id := funext fun _ => UInt8.and_neg_one
  simp only [canon]
  rw [this]
  simp

theorem flip255_take12 (r : Bytes) (hr : r.length = 32) : (flip255 r).take 12 = r.take 12 := by
  unfold flip255
  rw [List.take_append_of_le_length (by simp; omega)]
  simp [List.take_take]

theorem flip255_ne (r : Bytes) (hr : r.length = 32) : flip255 r ≠ r := by
  intro h
  have hd : r = r.take 31 ++ r.drop 31 := (List.take_append_drop 31 r).symm
  unfold flip255 at h
  rw [hd] at h
  have h31 : (r.take 31).length = 31 := by simp; omega
  simp only [List.take_left' h31, List.drop_left' h31] at h
  have h2 := List.append_cancel_left h
  match hdr : r.drop 31 with
  | [] => have : (r.drop 31).length = 1 := by simp; omega
          rw [hdr] at this; simp at this
  | b :: rest =>
    rw [hdr] at h2
    simp only [List.map_cons, List.cons.injEq] at h2
    exact xor128_ne b h2.1

/-- **pinned cache key (the raw 32 bytes).** Whatever the primitives are, if X25519 ignores bit 255
(`TopBit`, RFC 7748) then for EVERY packet the server accepts, the copy whose bit 255 is flipped —
same sealed block, no key needed — is accepted as well, right afterwards (cache key = raw bytes,
i.e. `canon 255`). -/
theorem c08_altered_witness_pinned (C : Crypto) (sk : Bytes) (htb : TopBit C sk)
    (hn : Gen.Handshake.sNonceLo = 0 ∧ Gen.Handshake.sNonceHi = 12)
    (rand ct : Bytes) (hr : rand.length = 32) (now : Int) (cache : Cache)
    (hu' : used cache (flip255 rand) = false) :
    let v := view C sk ⟨rand, ct⟩
    let v' := view C sk ⟨flip255 rand, ct⟩
    (present (canon 255) G.inWin ⟨cache, []⟩ v now).2 = .accept →
    (present (canon 255) G.inWin (present (canon 255) G.inWin ⟨cache, []⟩ v now).1 v' now).2 = .accept := by
  intro v v' hacc
  have hsl : ∀ r : Bytes, slice r Gen.Handshake.sNonceLo Gen.Handshake.sNonceHi = r.take 12 := by
    intro r; rw [hn.1, hn.2]; simp [slice]
  have hvreg : v'.reg = v.reg := by simp only [v, v', view, htb rand hr]
  have hvok : v'.ok = v.ok := by simp only [v, v', view, opened, htb rand hr, hsl, flip255_take12 rand hr]
  have hvts : v'.ts = v.ts := by simp only [v, v', view, opened, htb rand hr, hsl, flip255_take12 rand hr]
  have hvr : v.rand = rand := rfl
  have hvr' : v'.rand = flip255 rand := rfl
  have hne : flip255 rand ≠ rand := flip255_ne rand hr
  unfold present at hacc ⊢
  simp only [register, canon255, hvr, hvr', hvreg, hvok, hvts] at hacc ⊢
  by_cases hreg : v.reg = false
  · simp [hreg] at hacc
  · simp only [hreg, if_false] at hacc ⊢
    by_cases hu : used cache rand = true
    · simp [hu] at hacc
    · simp only [hu, if_false] at hacc ⊢
      by_cases hok : (v.ok && G.inWin v.ts now) = true
      · simp only [hok, if_true] at hacc ⊢
        have hu2 : used ((rand, now / 1000000000) :: cache.filter (fun e => decide (e.1 ≠ rand))) (flip255 rand) = false := by
          rw [Bool.eq_false_iff]
          intro hc
          rcases (used_iff _ _).1 hc with ⟨e, he, hk⟩
          rcases List.mem_cons.1 he with rfl | he
          · exact hne hk.symm
          · have hin := (List.mem_filter.1 he).1
            have : used cache (flip255 rand) = true := (used_iff _ _).2 ⟨e, hin, hk⟩
            rw [hu'] at this; exact absurd this (by simp)
        simp only [ne_eq, decide_not] at hu2 ⊢
        simp [hu2]
      · simp [hok] at hacc

/-! ## 6. The idealisations are jointly satisfiable with the laws (toy instance) -/

/-- toy primitives: the tag is 16 zero bytes, "X25519" returns the peer value with bit 255 cleared -/
def toy : Crypto where
  gcmSeal := fun _ _ p => p ++ zeros 16
  gcmOpen := fun _ _ c => if 16 ≤ c.length ∧ c.drop (c.length - 16) = zeros 16 then some (c.take (c.length - 16)) else none
  dh := fun _ r => if r.length = 32 then some (clear255 r) else none
  pub := fun _ => zeros 32

theorem toy_lawful : Lawful toy := by
  refine ⟨?_, ?_, ?_, ?_, ?_, ?_⟩
  · intro k n p; simp [toy, zeros]
  · intro k n c p h
    simp only [toy] at h ⊢
    split at h
    · rename_i hc
      have : p = c.take (c.length - 16) := by simpa using h.symm
      rw [this, ← hc.2, List.take_append_drop]
    · simp at h
  · intro k n p; simp [toy, zeros]
  · intro a b; simp [toy]
  · intro a; simp [toy, zeros]
  · intro a b s h
    simp only [toy] at h
    split at h
    · rename_i hl
      have : s = clear255 b := by simpa using h.symm
      rw [this]; simp [clear255]; omega
    · simp at h

example : Lawful toy := toy_lawful

/-- masking bit 7 away forgets a flip of bit 7: `&&&` distributes over `^^^`, and `128 &&& 127 = 0` -/
theorem xor128_and127 (b : UInt8) : (b ^^^ 128) &&& 127 = b &&& 127 :=
  UInt8.toNat_inj.1 (by
    rw [UInt8.toNat_and, UInt8.toNat_xor, Nat.and_xor_distrib_right, UInt8.toNat_and]
    exact Nat.xor_zero _)

theorem clear_flip (r : Bytes) (hr : r.length = 32) : clear255 (flip255 r) = clear255 r := by
  have h31 : (r.take 31).length = 31 := by simp; omega
  unfold clear255 flip255
  rw [List.take_left' h31, List.drop_left' h31]
  simp [List.map_map, Function.comp_def, xor128_and127]

/-- `INT`, `DH12` and `TopBit` hold of the toy instance over any universe inside a value and its bit-255 flip -/
theorem toy_ideal (r0 : Bytes) (h0 : r0.length = 32) (U : Bytes → Prop) (hU : ∀ r, U r → r = r0 ∨ r = flip255 r0) :
    (∀ r, U r → r.length = 32) ∧ INT toy [] U ∧ DH12 toy [] U ∧ TopBit toy [] := by
  have hfl : ∀ r : Bytes, r.length = 32 → (flip255 r).length = 32 := by intro r hr; simp [flip255]; omega
  have hUlen : ∀ r, U r → r.length = 32 := by
    intro r hr; rcases hU r hr with rfl | rfl
    · exact h0
    · exact hfl _ h0
  have hUc : ∀ r, U r → clear255 r = clear255 r0 := by
    intro r hr; rcases hU r hr with rfl | rfl
    · rfl
    · exact clear_flip r0 h0
  have hUt : ∀ r, U r → r.take 12 = r0.take 12 := by
    intro r hr; rcases hU r hr with rfl | rfl
    · rfl
    · exact flip255_take12 r0 h0
  refine ⟨hUlen, ?_, ?_, ?_⟩
  · intro r r' c p p' hr hr' _ _
    refine ⟨?_, by rw [hUt r hr, hUt r' hr']⟩
    simp [toy, hUlen r hr, hUlen r' hr', hUc r hr, hUc r' hr']
  · intro r r' hr hr' _ _ _ _ _
    rw [hUc r hr, hUc r' hr']
  · intro r hr
    simp [toy, hr, hfl r hr, clear_flip r hr]

/-- the hypotheses of `c08_once` / `c08_altered` are jointly satisfiable -/
example (r0 : Bytes) (h0 : r0.length = 32) :
    let U := fun r => r = r0 ∨ r = flip255 r0
    INT toy [] U ∧ DH12 toy [] U ∧ TopBit toy [] :=
  (toy_ideal r0 h0 _ fun _ h => h).2

end C08

namespace C08
open Replay HS

/-- non-vacuity of `c08_once`: with the toy primitives, a history that presents a packet, lets the
cleaner pass, and presents the bit-255-flipped copy satisfies every hypothesis of the theorem (and the
copy is indeed refused: one acceptance) -/
def exR : Bytes := List.replicate 31 3 ++ [5]
def exCt : Bytes := HS.mkPlain ⟨List.replicate 16 1, 7, [115], 1, false⟩ 1000 ++ zeros 16
def exH : List CEv := [.present ⟨exR, exCt⟩ 1000000000000, .clean 1001000000000, .present ⟨flip255 exR, exCt⟩ 1002000000000]

set_option maxRecDepth 20000 in
example : (exH.map cclock).Pairwise (· ≤ ·) ∧ (∀ r ∈ randsOf exH, r.length = 32) ∧
    INT toy [] (· ∈ randsOf exH) ∧ DH12 toy [] (· ∈ randsOf exH) ∧
    (∀ a b s, toy.dh a b = some s → s.length = 32) ∧ (crunEv toy [] exH).acc.length = 1 := by
  have hI := toy_ideal exR (by decide) (· ∈ randsOf exH) (by simp [exH, randsOf])
  exact ⟨by decide, hI.1, hI.2.1, hI.2.2.1, toy_lawful.dh_len, by decide⟩

end C08

#print axioms C08.c08_once
#print axioms C08.c08_retention
#print axioms C08.c08_concurrent
#print axioms C08.c08_altered
#print axioms C08.c08_altered_witness_pinned
