import CloakModel.Model.AuthPlain

/-! The timestamp window regenerated from `decryptClientInfo` is exactly the open interval of
± `timestampTolerance` around the server clock (ported from spike S12).  Closed by `omega` over the
*generated* term, so harmless rewrites of the Go condition re-prove and semantic changes do not.
`decryptInfo_ok_iff`: when `decryptClientInfo` as a whole succeeds. -/

set_option linter.unusedSimpArgs false

namespace HS

/-- the tolerance in whole seconds -/
def tolS : Int := Gen.Auth.timestampTolerance / 1000000000

/-- `timestampTolerance` is a whole number of seconds (needed by the whole-second argument of C08) -/
theorem gen_tol : Gen.Auth.timestampTolerance = tolS * 1000000000 := by decide

theorem window_exact (ts now : Int) :
    inWindow ts now = true ↔
      (now - Gen.Auth.timestampTolerance < ts * 1000000000 ∧ ts * 1000000000 < now + Gen.Auth.timestampTolerance) := by
  unfold inWindow Gen.Auth.windowReject
  simp only [Gen.Auth.timestampTolerance, Bool.not_eq_true', Bool.not_eq_false', Bool.and_eq_true, Bool.or_eq_true,
    Bool.not_eq_true, decide_eq_true_eq, decide_eq_false_iff_not, Bool.not_not, Bool.and_eq_false_iff, Bool.or_eq_false_iff]
  omega

/-- `decryptClientInfo` succeeds exactly when the block opens to a plaintext long enough, whose fields can be read and whose
timestamp is inside the window -/
theorem decryptInfo_ok_iff (C : Crypto) (f : Fragments) (now : Int) (info : ClientInfo) :
    decryptInfo C f now = .ok info ↔
      ∃ pt, C.gcmOpen f.shared (slice f.rand Gen.Handshake.sNonceLo Gen.Handshake.sNonceHi) f.ct = some pt ∧
        ¬ pt.length < sNeed ∧ plainInfo pt (beNat (slice pt Gen.Handshake.sSidLo Gen.Handshake.sSidHi)) = some info ∧
        inWindow (plainTs pt) now = true := by
  unfold decryptInfo
  cases C.gcmOpen f.shared (slice f.rand Gen.Handshake.sNonceLo Gen.Handshake.sNonceHi) f.ct with
  | none => simp
  | some pt =>
    by_cases hl : pt.length < sNeed
    · simp [hl, Nat.not_le.2 hl]
    · cases hpi : plainInfo pt (beNat (slice pt Gen.Handshake.sSidLo Gen.Handshake.sSidHi)) with
      | none => simp [hl, hpi]
      | some i => cases hw : inWindow (plainTs pt) now <;> simp [hl, hpi, hw, Nat.not_lt.1 hl]

end HS
