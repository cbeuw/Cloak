import CloakModel.Model.Connector
import CloakModel.Lemmas.ClientConfig

/-! # C06 (connector) — what `client.MakeSession` hands over as "the session" after the handshakes

`Connector.run (init mode browser n) evs` is MakeSession's state after ANY interleaving `evs` of the attempts of its `n`
goroutines (events of a goroutine that has already finished, or that does not exist, change nothing).

* `gen_structure`, `gen_fallback`, `gen_backoff_structure` — what the extracted facts say.
* `mk_exactly_numConn` — once every goroutine has reported, exactly `NumConn` transports are in the channel and the
  session gets exactly those; `mk_conns_succeeded` each is the connection of a handshake that SUCCEEDED;
  `mk_none_closed` none of them was closed; `mk_failed_closed` every failed handshake's transport was closed
  (and no dial failure closes anything: `mk_dial_fail_no_close`).
* `mk_key_agree_full` (the obfuscator's key is the key of EVERY added connection) is **false** of MakeSession alone:
  `mk_key_agree_witness`; `mk_key_agree` proves it under `SameKey` — every successful handshake of this call was given
  the same key, which is what C15's `c15_same_session` gives for one `(UID, SessionId)`: see `SameKey` below.
* `mk_key_is_last` — the key used is the one stored last.
* `mk_fallback_*` — the chrome→firefox fall-back: only for mode "direct" and chrome, only after a failed HANDSHAKE,
  sticky, and private to the goroutine.
* `mk_no_panic` — with `NumConn ≥ 1` the `Load().([32]byte)` never meets an empty value; `mk_zero_panics` is the witness
  for `NumConn = 0`; `c20_numConn_pos` — `ProcessRawConfig` (C20's model, from its extracted terms) never yields `NumConn < 1`.
* `mk_config` — Singleplex / Unordered / MsgOnWireSizeLimit / Valve / session id of the session.
* `backoff_returned`, `backoff_fatal`, `backoff_total`, `randRead_full_*`, `randInt_range`. -/

namespace C06Connector
open Connector Gen.Connector

/-! ## 1. The extracted facts -/

/-- OBLIGATION: the structure of MakeSession the model relies on -/
theorem gen_structure :
    topOrder = ["makechan", "spawn", "wait", "load", "obfuscator", "config", "session", "add", "return"] ∧
    capIsNumConn = true ∧ spawnBoundIsNumConn = true ∧ addBoundIsNumConn = true ∧ addLoopReceivesAndAdds = true ∧
    sessionIdFromAuthInfo = true ∧ wgAddBeforeGo = true ∧
    transportConfigCopiedPerIteration = true ∧ transportFieldIsValue = true ∧ dialsRemoteAddr = true ∧
    dialFailJumpsBack = true ∧ hsFailJumpsBack = true ∧
    dialFailCloses = false ∧ hsFailCloses = true ∧ dialFailFallsBack = false ∧ hsFailFallsBack = true ∧
    okStoresSendsThenDone = true ∧ 0 < sleepDialFail ∧ 0 < sleepHsFail ∧ 1 ≤ ckClientNumConnMin :=
  ⟨rfl, rfl, rfl, rfl, rfl, rfl, rfl, rfl, rfl, rfl, rfl, rfl, rfl, rfl, rfl, rfl, rfl, by decide, by decide, by decide⟩

/-- OBLIGATION: both failure branches sleep 3 s (the documented retry interval) -/
theorem gen_sleeps : sleepDialFail = 3000000000 ∧ sleepHsFail = 3000000000 := by decide

/-- OBLIGATION: the fall-back condition and target, whatever way the test is written -/
theorem gen_fallback (mode : String) (b : Int) :
    (fallbackCond mode b = true ↔ (mode = "direct" ∧ b = chromeId)) ∧ fallbackBrowser b = firefoxId ∧
    chromeId ≠ firefoxId ∧ chromeId ≠ safariId ∧ firefoxId ≠ safariId := by
  refine ⟨?_, ?_, by decide, by decide, by decide⟩
  · constructor <;> intro h <;> simp_all [fallbackCond, chromeId]
  · simp [fallbackBrowser, firefoxId]

/-- OBLIGATION: where the session configuration comes from -/
theorem gen_config :
    seshConfigFields = [("MsgOnWireSizeLimit", "appDataMaxLength"), ("Obfuscator", "obfuscator"),
      ("Singleplex", "connConfig.Singleplex"), ("Unordered", "authInfo.Unordered"), ("Valve", "nil")] ∧
    appDataMaxLength = 16401 := ⟨rfl, rfl⟩

/-- OBLIGATION: shape of `backoff`, `RandRead`, `RandInt`, the AES-GCM wrappers -/
theorem gen_backoff_structure :
    backoffShape = ["call", "retok", "table", "loop", "fatal"] ∧ backoffLoopShape = ["call", "retok", "sleep"] ∧
    backoffRetries = 10 ∧ backoffWaits.length = backoffRetries ∧ backoffTableLen = 10 ∧
    backoffWaits.foldl (· + ·) 0 = 9995000000 ∧ (∀ w ∈ backoffWaits, 0 < w) ∧
    randReadUsesBackoff = true ∧ randIntUsesBackoff = true ∧ randIntReaderIsCrypto = true ∧ randIntReturnsDraw = true ∧
    gcmSealOrder = true ∧ gcmOpenOrder = true :=
  ⟨rfl, rfl, rfl, rfl, rfl, by decide, by decide, rfl, rfl, rfl, rfl, rfl, rfl⟩

theorem gen_randIntBound (n : Int) : randIntBound n = n := by simp [randIntBound]

/-! ## 2. Invariants of the goroutine machine -/

theorem countDone_le (gs : List G) : countDone gs ≤ gs.length := by
  induction gs with
  | nil => simp [countDone]
  | cons x xs ih => simp only [countDone, List.length_cons]; split <;> omega

theorem allDone_count (gs : List G) (h : allDone gs = true) : countDone gs = gs.length := by
  induction gs with
  | nil => simp [countDone]
  | cons x xs ih =>
    simp only [allDone, List.all_cons, Bool.and_eq_true] at h
    simp only [countDone, List.length_cons, h.1, if_true]
    have := ih (by simpa [allDone] using h.2)
    omega

theorem countDone_set_done (gs : List G) (g : Nat) (x : G) (hx : gs[g]? = some x) (hd : x.done = false) (y : G) (hy : y.done = true) :
    countDone (gs.set g y) = countDone gs + 1 := by
  induction gs generalizing g with
  | nil => simp at hx
  | cons a as ih =>
    cases g with
    | zero =>
      simp only [List.getElem?_cons_zero, Option.some.injEq] at hx
      subst hx
      simp [countDone, hd, hy]; omega
    | succ g =>
      simp only [List.getElem?_cons_succ] at hx
      simp only [List.set_cons_succ, countDone, ih g hx]; omega

theorem countDone_set_same (gs : List G) (g : Nat) (x : G) (hx : gs[g]? = some x) (y : G) (hy : y.done = x.done) :
    countDone (gs.set g y) = countDone gs := by
  induction gs generalizing g with
  | nil => simp at hx
  | cons a as ih =>
    cases g with
    | zero =>
      simp only [List.getElem?_cons_zero, Option.some.injEq] at hx
      subst hx
      simp [countDone, hy]
    | succ g =>
      simp only [List.getElem?_cons_succ] at hx
      simp only [List.set_cons_succ, countDone, ih g hx]

/-- what stays true whatever happens -/
structure Inv (s : St) : Prop where
  count : s.ch.length = countDone s.gs
  last : s.stored = s.ch.getLast?.map (·.2)

theorem inv_init (mode : String) (b : Int) (n : Nat) : Inv (init mode b n) := by
  refine ⟨?_, rfl⟩
  simp only [init, List.length_nil]
  induction n with
  | zero => rfl
  | succ n ih => simp [List.replicate_succ, countDone]; simpa using ih

theorem step_evG (e : Ev) : (match e with | .dialFail g => g | .hsFail g _ => g | .hsOk g _ _ => g) = evG e := by
  cases e <;> rfl

theorem inv_step (s : St) (e : Ev) (h : Inv s) : Inv (step s e) := by
  unfold step
  split
  · exact h
  · rename_i x hx
    split
    · exact h
    · rename_i hd
      have hd' : x.done = false := by simpa using hd
      cases e with
      | dialFail g =>
        simp only [evG] at hx
        exact ⟨h.count.trans (countDone_set_same s.gs g x hx _ (by rfl)).symm, h.last⟩
      | hsFail g c =>
        simp only [evG] at hx
        exact ⟨h.count.trans (countDone_set_same s.gs g x hx _ (by rfl)).symm, h.last⟩
      | hsOk g c k =>
        simp only [evG] at hx
        refine ⟨?_, ?_⟩
        · simp only [List.length_append, List.length_singleton]
          rw [countDone_set_done s.gs g x hx hd' _ rfl, h.count]
        · simp

theorem inv_run (s : St) (evs : List Ev) (h : Inv s) : Inv (run s evs) :=
  List.foldlRecOn evs step h fun s h e _ => inv_step s e h

theorem gs_length_step (s : St) (e : Ev) : (step s e).gs.length = s.gs.length := by
  unfold step
  split
  · rfl
  · split
    · rfl
    · cases e <;> simp

theorem gs_length_run (s : St) (evs : List Ev) : (run s evs).gs.length = s.gs.length :=
  List.foldlRecOn (motive := fun t => t.gs.length = s.gs.length) evs step rfl fun t h e _ => (gs_length_step t e).trans h

theorem mode_step (s : St) (e : Ev) : (step s e).mode = s.mode := by
  unfold step
  split
  · rfl
  · split
    · rfl
    · cases e <;> rfl

/-! ## 3. Exactly NumConn connections, all from successful handshakes, none closed -/

/-- **exactly NumConn**: when every goroutine has reported done, the channel holds exactly `NumConn` transports —
the adding loop neither blocks nor leaves one behind — and the session is given exactly those -/
theorem mk_exactly_numConn (mode : String) (b : Int) (n : Nat) (evs : List Ev)
    (hd : allDone (run (init mode b n) evs).gs = true) :
    (run (init mode b n) evs).ch.length = n := by
  have hi := inv_run _ evs (inv_init mode b n)
  rw [hi.count, allDone_count _ hd, gs_length_run]
  simp [init]

example : (run (init "direct" 0 2) [.hsFail 0 10, .dialFail 1, .hsOk 1 11 7, .hsOk 0 12 7]).ch.length = 2 := by decide

theorem ch_mem_step (s : St) (e : Ev) (p : Nat × Nat) (hp : p ∈ (step s e).ch) :
    p ∈ s.ch ∨ (∃ g, e = .hsOk g p.1 p.2 ∧ enabled s e = true) := by
  unfold step at hp
  split at hp
  · exact .inl hp
  · rename_i x hx
    split at hp
    · exact .inl hp
    · rename_i hd
      cases e with
      | dialFail g => exact .inl hp
      | hsFail g c => exact .inl hp
      | hsOk g c k =>
        simp only [List.mem_append, List.mem_singleton] at hp
        rcases hp with hp | hp
        · exact .inl hp
        · refine .inr ⟨g, by rw [hp], ?_⟩
          simp only [enabled, hx]; simpa using hd

/-- **every added connection is one whose handshake succeeded** (an `hsOk` event of the history) -/
theorem mk_conns_succeeded (s : St) (evs : List Ev) (p : Nat × Nat) (hp : p ∈ (run s evs).ch) :
    p ∈ s.ch ∨ ∃ g, Ev.hsOk g p.1 p.2 ∈ evs :=
  List.foldlRecOn (motive := fun t => p ∈ t.ch → p ∈ s.ch ∨ ∃ g, Ev.hsOk g p.1 p.2 ∈ evs) evs step .inl
    (fun t ih e he hp => (ch_mem_step t e p hp).elim ih fun ⟨g, hg, _⟩ => .inr ⟨g, hg ▸ he⟩) hp

theorem closed_mem_step (s : St) (e : Ev) (c : Nat) (hc : c ∈ (step s e).closed) :
    c ∈ s.closed ∨ ∃ g, e = .hsFail g c := by
  unfold step at hc
  split at hc
  · exact .inl hc
  · split at hc
    · exact .inl hc
    · cases e with
      | dialFail g => exact .inl hc
      | hsOk g c' k => exact .inl hc
      | hsFail g c' =>
        simp only at hc
        split at hc
        · simp only [List.mem_append, List.mem_singleton] at hc
          rcases hc with hc | hc
          · exact .inl hc
          · exact .inr ⟨g, by rw [hc]⟩
        · exact .inl hc

theorem closed_from_failures (s : St) (evs : List Ev) (c : Nat) (hc : c ∈ (run s evs).closed) :
    c ∈ s.closed ∨ ∃ g, Ev.hsFail g c ∈ evs :=
  List.foldlRecOn (motive := fun t => c ∈ t.closed → c ∈ s.closed ∨ ∃ g, Ev.hsFail g c ∈ evs) evs step .inl
    (fun t ih e he hc => (closed_mem_step t e c hc).elim ih fun ⟨g, hg⟩ => .inr ⟨g, hg ▸ he⟩) hc

/-- **none of the added connections was closed** (every dial returns a connection of its own: a connection on which a
handshake succeeded is not one on which a handshake failed); in particular a dial failure closes nothing -/
theorem mk_none_closed (mode : String) (b : Int) (n : Nat) (evs : List Ev)
    (hfresh : ∀ g g' c k, Ev.hsOk g c k ∈ evs → Ev.hsFail g' c ∉ evs)
    (p : Nat × Nat) (hp : p ∈ (run (init mode b n) evs).ch) : p.1 ∉ (run (init mode b n) evs).closed := by
  intro hc
  rcases mk_conns_succeeded _ evs p hp with h | ⟨g, hg⟩
  · simp [init] at h
  · rcases closed_from_failures _ evs p.1 hc with h | ⟨g', hg'⟩
    · simp [init] at h
    · exact hfresh g g' p.1 p.2 hg hg'

example : (run (init "direct" 0 2) [.hsFail 0 10, .dialFail 1, .hsOk 1 11 7, .hsOk 0 12 7]).closed = [10] := by decide

/-- **a failed handshake's transport is closed** (one step; needs the extracted `hsFailCloses`) -/
theorem mk_failed_closed (s : St) (g c : Nat) (he : enabled s (.hsFail g c) = true) : c ∈ (step s (.hsFail g c)).closed := by
  unfold enabled at he
  unfold step
  split
  · rename_i h; simp [h] at he
  · rename_i x hx
    simp only [hx] at he
    split
    · rename_i hd; simp [hd] at he
    · simp [gen_structure.2.2.2.2.2.2.2.2.2.2.2.2.2.1]

/-- a dial failure closes nothing and never panics (`Close()` on a transport without a connection would) -/
theorem mk_dial_fail_no_close (s : St) (g : Nat) :
    (step s (.dialFail g)).closed = s.closed ∧ (step s (.dialFail g)).panicked = s.panicked := by
  unfold step
  split
  · exact ⟨rfl, rfl⟩
  · split
    · exact ⟨rfl, rfl⟩
    · simp [gen_structure.2.2.2.2.2.2.2.2.2.2.2.2.1]

/-! ## 4. The key -/

/-- **the key used is the one stored last**: the key of the last transport sent -/
theorem mk_key_is_last (mode : String) (b : Int) (n : Nat) (evs : List Ev) :
    (run (init mode b n) evs).stored = (run (init mode b n) evs).ch.getLast?.map (·.2) :=
  (inv_run _ evs (inv_init mode b n)).last

/-- the hypothesis MakeSession's comment relies on ("sessionKey given by each connection should be identical"): every
successful handshake of THIS call was answered with the same key.  Every handshake of one call carries the same
`authInfo.UID` and `authInfo.SessionId`; the server answers the first with the key of the session it creates and every
later one — a join — with the key of that same session, as long as the session is not removed in between: that is
`C15.c15_same_session` (`(getSession … rid sid k2 now2).2 = .joined K`, Props/C15.lean) followed by C06's `c06_reply`
(the client decrypts exactly the key the server put into the reply). -/
def SameKey (evs : List Ev) (K : Nat) : Prop := ∀ g c k, Ev.hsOk g c k ∈ evs → k = K

/-- full strength, no hypothesis on the server: the obfuscator's key is the key of every added connection -/
def mk_key_agree_full : Prop :=
  ∀ (cfg : Cfg) (mode : String) (b : Int) (evs : List Ev) (sesh : Sesh),
    assemble cfg (run (init mode b cfg.numConn) evs) = .ok sesh →
    ∀ p ∈ (run (init mode b cfg.numConn) evs).ch, p.2 = sesh.key

/-- what an assembled session is, read off the SessionConfig literal (`gen_config`) -/
theorem assemble_ok (cfg : Cfg) (s : St) (sesh : Sesh) (h : assemble cfg s = .ok sesh) :
    allDone s.gs = true ∧ cfg.numConn ≤ s.ch.length ∧ s.stored = some sesh.key ∧
    sesh = { id := cfg.sessionId, key := sesh.key, conns := (s.ch.take cfg.numConn).map (·.1), singleplex := cfg.singleplex,
             unordered := cfg.unordered, msgOnWireSizeLimit := 16401, valveNil := true } := by
  have h1 : boolField cfg "Singleplex" = some cfg.singleplex := by simp [boolField, lookupField, gen_config.1]
  have h2 : boolField cfg "Unordered" = some cfg.unordered := by simp [boolField, lookupField, gen_config.1]
  unfold assemble at h
  rw [h1, h2] at h
  split at h
  · cases h
  · next hd =>
    split at h
    · cases h
    · next k hk =>
      split at h
      · cases h
      · cases h
        exact ⟨by simpa using hd, by omega, hk, by simp [lookupField, gen_config.1, gen_config.2]⟩

theorem assemble_panic (cfg : Cfg) (s : St) (h : assemble cfg s = .panic) : allDone s.gs = true ∧ s.stored = none := by
  unfold assemble at h
  split at h
  · cases h
  · next hd =>
    split at h
    · next hn => exact ⟨by simpa using hd, hn⟩
    · split at h
      · cases h
      · split at h <;> cases h

/-- **key agreement, under `SameKey`** -/
theorem mk_key_agree (cfg : Cfg) (mode : String) (b : Int) (evs : List Ev) (K : Nat) (hs : SameKey evs K) (sesh : Sesh)
    (h : assemble cfg (run (init mode b cfg.numConn) evs) = .ok sesh) (hn : 1 ≤ cfg.numConn) :
    sesh.key = K ∧ ∀ p ∈ (run (init mode b cfg.numConn) evs).ch, p.2 = sesh.key := by
  have hall : ∀ p ∈ (run (init mode b cfg.numConn) evs).ch, p.2 = K := by
    intro p hp
    rcases mk_conns_succeeded _ evs p hp with h' | ⟨g, hg⟩
    · simp [init] at h'
    · exact hs g p.1 p.2 hg
  obtain ⟨_, hlen, hst, _⟩ := assemble_ok cfg _ sesh h
  have hl := mk_key_is_last mode b cfg.numConn evs
  rw [hst] at hl
  have hk : sesh.key = K := by
    cases hgl : (run (init mode b cfg.numConn) evs).ch.getLast? with
    | none => rw [hgl] at hl; simp at hl
    | some q =>
      rw [hgl] at hl
      simp only [Option.map_some, Option.some.injEq] at hl
      rw [hl]
      exact hall q (List.mem_of_getLast? hgl)
  exact ⟨hk, fun p hp => (hall p hp).trans hk.symm⟩

example : SameKey [.hsFail 0 10, .dialFail 1, .hsOk 1 11 7, .hsOk 0 12 7] 7 ∧
    (∃ s, assemble ⟨2, false, false, 5⟩ (run (init "direct" 0 2) [.hsFail 0 10, .dialFail 1, .hsOk 1 11 7, .hsOk 0 12 7]) = .ok s) := by
  refine ⟨?_, ?_⟩
  · intro g c k h
    simp only [List.mem_cons, List.mem_nil_iff, or_false, reduceCtorEq, false_or, Ev.hsOk.injEq] at h
    rcases h with h | h <;> exact h.2.2
  · exact ⟨⟨5, 7, [11, 12], false, false, 16401, true⟩, by decide⟩

/-- **witness**: two goroutines given different keys (a server that does not keep one session per (UID, SessionId)):
the session is assembled all the same, its key is the later one, and the first connection's key differs -/
theorem mk_key_agree_witness : ¬ mk_key_agree_full := by
  intro h
  have := h ⟨2, false, false, 5⟩ "direct" 1 [.hsOk 0 10 7, .hsOk 1 11 8] ⟨5, 8, [10, 11], false, false, 16401, true⟩ (by decide) (10, 7) (by decide)
  revert this
  decide

/-! ## 5. The chrome → firefox fall-back -/

theorem afterFail_spec (has : Bool) (mode : String) (b : Int) :
    afterFail has mode b = if has = true ∧ mode = "direct" ∧ b = chromeId then firefoxId else b := by
  unfold afterFail
  have := gen_fallback mode b
  by_cases hh : has = true
  · by_cases hc : fallbackCond mode b = true
    · have hm := this.1.1 hc
      rw [if_pos (by simp [hh, hc]), if_pos ⟨hh, hm⟩]; exact this.2.1
    · have hn : ¬ (mode = "direct" ∧ b = chromeId) := fun h => hc (this.1.2 h)
      simp [hh, hc, hn]
  · simp [hh]

/-- the browser goroutine `g` would use for its next attempt -/
def browserOf (s : St) (g : Nat) : Option Int := (s.gs[g]?).map (·.browser)

/-- **a failed handshake of an enabled goroutine**: chrome becomes firefox in mode "direct", anything else stays -/
theorem mk_fallback_hsFail (s : St) (g c : Nat) (x : G) (hx : s.gs[g]? = some x) (hd : x.done = false) :
    browserOf (step s (.hsFail g c)) g = some (if s.mode = "direct" ∧ x.browser = chromeId then firefoxId else x.browser) := by
  obtain ⟨hlt, hxe⟩ := List.getElem?_eq_some_iff.mp hx
  unfold step browserOf
  simp only [evG, hx, hd]
  simp [afterFail_spec, gen_structure.2.2.2.2.2.2.2.2.2.2.2.2.2.2.2.1, hlt, hxe]

/-- **a failed DIAL never changes the browser** -/
theorem mk_fallback_not_on_dialFail (s : St) (g g' : Nat) : browserOf (step s (.dialFail g)) g' = browserOf s g' := by
  unfold step browserOf
  split
  · rfl
  · rename_i x hx
    split
    · rfl
    · simp only [evG] at hx
      simp only [afterFail_spec, gen_structure.2.2.2.2.2.2.2.2.2.2.2.2.2.2.1]
      by_cases hgg : g = g'
      · subst hgg
        obtain ⟨hlt, hxe⟩ := List.getElem?_eq_some_iff.mp hx
        simp [hlt, hxe]
      · simp [List.getElem?_set_ne hgg]

/-- **the fall-back is private to the goroutine**: an event of goroutine `g` leaves every other goroutine's browser alone -/
theorem mk_fallback_private (s : St) (e : Ev) (g' : Nat) (hne : evG e ≠ g') : browserOf (step s e) g' = browserOf s g' := by
  unfold step browserOf
  split
  · rfl
  · split
    · rfl
    · cases e <;> simp only [evG] at hne <;> simp [List.getElem?_set_ne hne]

/-- **sticky / only chrome in "direct"**: one step moves a goroutine's browser only from chrome to firefox, and only in mode "direct" -/
theorem mk_fallback_step (s : St) (e : Ev) (g : Nat) (b : Int) (hb : browserOf s g = some b) :
    browserOf (step s e) g = some b ∨ (s.mode = "direct" ∧ b = chromeId ∧ (∃ c, e = .hsFail g c) ∧ browserOf (step s e) g = some firefoxId) := by
  by_cases hg : evG e = g
  · unfold browserOf at hb
    cases hx : s.gs[g]? with
    | none => simp [hx] at hb
    | some x =>
      simp only [hx, Option.map_some, Option.some.injEq] at hb
      by_cases hd : x.done = true
      · left
        unfold step browserOf
        simp [hg, hx, hd, hb]
      · have hd' : x.done = false := by simpa using hd
        cases e with
        | dialFail g0 =>
          simp only [evG] at hg; subst hg
          left; rw [mk_fallback_not_on_dialFail]; simp [browserOf, hx, hb]
        | hsFail g0 c =>
          simp only [evG] at hg; subst hg
          rw [mk_fallback_hsFail s g0 c x hx hd']
          by_cases hc : s.mode = "direct" ∧ x.browser = chromeId
          · right
            exact ⟨hc.1, hb ▸ hc.2, ⟨c, rfl⟩, by simp [hc]⟩
          · left; rw [if_neg hc, hb]
        | hsOk g0 c k =>
          simp only [evG] at hg; subst hg
          left
          have hlt := (List.getElem?_eq_some_iff.mp hx).1
          unfold step browserOf
          simp only [evG, hx, hd']
          simp [hlt, hb]
  · left; rw [mk_fallback_private s e g hg]; exact hb

/-- **over a whole history**: a goroutine that started with browser `b` ends with `b`, or — only if the mode is "direct",
`b` is chrome and one of ITS handshakes failed — with firefox -/
theorem mk_fallback_run (s : St) (evs : List Ev) (g : Nat) (b : Int) (hb : browserOf s g = some b) :
    browserOf (run s evs) g = some b ∨
    (s.mode = "direct" ∧ b = chromeId ∧ (∃ c, Ev.hsFail g c ∈ evs) ∧ browserOf (run s evs) g = some firefoxId) := by
  induction evs generalizing s b with
  | nil => exact .inl hb
  | cons e es ih =>
    rcases mk_fallback_step s e g b hb with h | ⟨hm, hc, ⟨c, hec⟩, hf⟩
    · rcases ih (step s e) b h with h' | ⟨hm, hc, ⟨c, hmem⟩, hf⟩
      · exact .inl h'
      · exact .inr ⟨by rw [← hm, mode_step], hc, ⟨c, List.mem_cons_of_mem _ hmem⟩, hf⟩
    · rcases ih (step s e) firefoxId hf with h' | ⟨_, hc', _, _⟩
      · exact .inr ⟨hm, hc, ⟨c, by simp [hec]⟩, h'⟩
      · exact absurd hc'.symm (gen_fallback "" 0).2.2.1

example : browserOf (run (init "direct" 0 3) [.dialFail 0, .hsFail 1 10, .hsOk 2 11 7]) 0 = some 0 ∧
          browserOf (run (init "direct" 0 3) [.dialFail 0, .hsFail 1 10, .hsOk 2 11 7]) 1 = some 1 ∧
          browserOf (run (init "cdn" 0 3) [.dialFail 0, .hsFail 1 10, .hsOk 2 11 7]) 1 = some 0 ∧
          browserOf (run (init "direct" 2 3) [.dialFail 0, .hsFail 1 10, .hsOk 2 11 7]) 1 = some 2 := by decide

/-! ## 6. `NumConn = 0` -/

theorem countDone_pos_of_allDone (gs : List G) (h : allDone gs = true) (hn : 1 ≤ gs.length) : 1 ≤ countDone gs := by
  rw [allDone_count gs h]; exact hn

/-- **no empty `Load()`**: with `NumConn ≥ 1`, whatever the history, the assembly never panics -/
theorem mk_no_panic (cfg : Cfg) (mode : String) (b : Int) (evs : List Ev) (hn : 1 ≤ cfg.numConn) :
    assemble cfg (run (init mode b cfg.numConn) evs) ≠ .panic := by
  intro h
  obtain ⟨hd, hs⟩ := assemble_panic _ _ h
  have hlen := mk_exactly_numConn mode b cfg.numConn evs hd
  have hl := mk_key_is_last mode b cfg.numConn evs
  rw [hs] at hl
  cases hc : (run (init mode b cfg.numConn) evs).ch with
  | nil => rw [hc] at hlen; simp at hlen; omega
  | cons p ps => rw [hc] at hl; simp [List.getLast?_cons] at hl

/-- **witness**: a `RemoteConnConfig` with `NumConn = 0` makes MakeSession panic (no goroutine runs, `wg.Wait()` returns
at once, the type assertion meets a nil interface) -/
theorem mk_zero_panics (sp un : Bool) (sid : Nat) (mode : String) (b : Int) :
    assemble ⟨0, sp, un, sid⟩ (run (init mode b 0) []) = .panic := by
  simp [assemble, run, init, allDone]

/-- **the precondition holds for every configuration `ProcessRawConfig` accepts** (C20's model, built from the extracted
`raw.NumConn <= 0` test and the two assignments): `NumConn ≥ 1`, and `cmd/ck-client` only ever overwrites it with 1 -/
theorem c20_numConn_pos (lower : String → String) (raw : CC.RawConfig) (c : CC.Cfg)
    (h : CC.processRaw lower raw = .ok c) : 1 ≤ c.numConn ∧ 1 ≤ ckClientNumConnMin := by
  refine ⟨?_, by decide⟩
  have hn : 1 ≤ (CC.numConnOf raw).1 := by
    unfold CC.numConnOf
    split
    · simp [Gen.ClientCfg.numConnThen]
    · rename_i hc
      simp only [Gen.ClientCfg.singleplexCond, decide_eq_true_eq] at hc
      simp only [Gen.ClientCfg.numConnElse]; omega
  obtain ⟨_, rfl⟩ := CC.processRawK_ok h
  exact hn

/-! ## 7. The session's configuration -/

/-- **Singleplex, Unordered, MsgOnWireSizeLimit = appDataMaxLength, Valve nil, the session id, the connections** -/
theorem mk_config (cfg : Cfg) (s : St) (sesh : Sesh) (h : assemble cfg s = .ok sesh) :
    sesh.singleplex = cfg.singleplex ∧ sesh.unordered = cfg.unordered ∧ sesh.msgOnWireSizeLimit = 16401 ∧
    sesh.valveNil = true ∧ sesh.id = cfg.sessionId ∧ sesh.conns.length = cfg.numConn := by
  obtain ⟨_, hl, _, e⟩ := assemble_ok cfg s sesh h
  rw [e]
  simp; omega

/-! ## 8. `backoff`, `RandRead`, `RandInt` -/

/-- the retry loop read backwards from a return: call numbers are absolute, and the time slept is the loop's own
accumulator over the waits before the successful call -/
theorem retryLoop_returned (src : Nat → Bool) : ∀ (ws : List Int) (calls : Nat) (slept : Int) (c : Nat) (sl : Int),
    retryLoop src ws calls slept = .returned c sl →
    calls < c ∧ c ≤ calls + ws.length ∧ src (c - 1) = true ∧ (∀ i, calls ≤ i → i < c - 1 → src i = false) ∧
    sl = (ws.take (c - 1 - calls)).foldl (· + ·) slept := by
  intro ws
  induction ws with
  | nil => intro calls slept c sl h; cases h
  | cons w ws ih =>
    intro calls slept c sl h
    unfold retryLoop at h
    split at h
    · next h0 =>
      cases h
      exact ⟨by omega, by simp, by simpa using h0, fun i h1 h2 => by omega, by simp⟩
    · next h0 =>
      obtain ⟨h1, h2, h3, h4, h5⟩ := ih _ _ _ _ h
      refine ⟨by omega, by simp; omega, h3, fun i hi hi' => ?_, ?_⟩
      · by_cases e : i = calls
        · subst e; simpa using h0
        · exact h4 i (by omega) hi'
      · rw [show c - 1 - calls = (c - 1 - (calls + 1)) + 1 by omega, List.take_succ_cons, List.foldl_cons]
        exact h5

/-- the same from the fatal exit: every call failed and every wait was slept -/
theorem retryLoop_fatal (src : Nat → Bool) : ∀ (ws : List Int) (calls : Nat) (slept : Int) (c : Nat) (sl : Int),
    retryLoop src ws calls slept = .fatal c sl →
    c = calls + ws.length ∧ sl = ws.foldl (· + ·) slept ∧ ∀ i, calls ≤ i → i < c → src i = false := by
  intro ws
  induction ws with
  | nil => intro calls slept c sl h; cases h; exact ⟨rfl, rfl, fun i h1 h2 => by omega⟩
  | cons w ws ih =>
    intro calls slept c sl h
    unfold retryLoop at h
    split at h
    · cases h
    · next h0 =>
      obtain ⟨h1, h2, h3⟩ := ih _ _ _ _ h
      refine ⟨by simp; omega, h2, fun i hi hi' => ?_⟩
      by_cases e : i = calls
      · subst e; simpa using h0
      · exact h3 i (by omega) hi'

/-- **`backoff` returns only after a call that succeeded** — the FIRST one that did, among at most 11 calls -/
theorem backoff_returned (src : Nat → Bool) (c : Nat) (sl : Int) (h : backoff src = .returned c sl) :
    1 ≤ c ∧ c ≤ 11 ∧ src (c - 1) = true ∧ ∀ i, i < c - 1 → src i = false := by
  unfold backoff at h
  split at h
  · next h0 => cases h; exact ⟨by omega, by omega, h0, fun i hi => by omega⟩
  · next h0 =>
    obtain ⟨h1, h2, h3, h4, _⟩ := retryLoop_returned _ _ _ _ _ _ h
    have hl : (backoffWaits.take backoffRetries).length = 10 := by decide
    refine ⟨by omega, by omega, h3, fun i hi => ?_⟩
    by_cases e : i = 0
    · subst e; simpa using h0
    · exact h4 i (by omega) hi

/-- **after the last retry**: 11 failed calls, 9.995 s slept in total (the last 5 s AFTER the last failed call), then
`log.Fatal` — the process exits; `backoff` never returns without a success -/
theorem backoff_fatal (src : Nat → Bool) (c : Nat) (sl : Int) (h : backoff src = .fatal c sl) :
    c = 11 ∧ sl = 9995000000 ∧ ∀ i, i < 11 → src i = false := by
  unfold backoff at h
  split at h
  · cases h
  · next h0 =>
    obtain ⟨h1, h2, h3⟩ := retryLoop_fatal _ _ _ _ _ _ h
    have hl : (backoffWaits.take backoffRetries).length = 10 := by decide
    refine ⟨by omega, by rw [h2]; decide, fun i hi => ?_⟩
    by_cases e : i = 0
    · subst e; simpa using h0
    · exact h3 i (by omega) (by omega)

theorem backoff_total (src : Nat → Bool) (i : Nat) (hi : i < 11) (hs : src i = true) : ∃ c sl, backoff src = .returned c sl := by
  cases hb : backoff src with
  | returned c sl => exact ⟨c, sl, rfl⟩
  | fatal c sl => have := (backoff_fatal src c sl hb).2.2 i hi; rw [hs] at this; cases this

example : backoff (fun i => i == 3) = .returned 4 15000000 := by decide
example : backoff (fun _ => false) = .fatal 11 9995000000 := by decide

/-- full strength for `RandRead`: it returns only after a read that FILLED the buffer -/
def randRead_full_full : Prop :=
  ∀ (len : Nat) (src : Nat → Nat × Bool) (c : Nat) (sl : Int), randRead src = .returned c sl → (src (c - 1)).1 = len

/-- false for an arbitrary `io.Reader` (the byte count is discarded: `_, err := randSource.Read(buf)`): a reader may
return fewer bytes with a nil error -/
theorem randRead_full_witness : ¬ randRead_full_full := by
  intro h
  have := h 32 (fun _ => (0, true)) 1 0 (by decide)
  simp at this

/-- holds for sources that fill the buffer whenever they report no error (`crypto/rand.Reader` does) -/
theorem randRead_full_partial (len : Nat) (src : Nat → Nat × Bool) (hsrc : ∀ i, (src i).2 = true → (src i).1 = len)
    (c : Nat) (sl : Int) (h : randRead src = .returned c sl) : (src (c - 1)).1 = len ∧ (src (c - 1)).2 = true :=
  ⟨hsrc _ (backoff_returned _ c sl h).2.2.1, (backoff_returned _ c sl h).2.2.1⟩

/-- **`RandInt(n)` is in `[0, n)`** (the bound handed to `crypto/rand.Int` is the extracted `int64(n)`) -/
theorem randInt_range (n : Int) (d : Nat) (r : Int) (h : randInt n d = some r) : 0 ≤ r ∧ r < n := by
  unfold randInt at h
  rw [gen_randIntBound] at h
  split at h
  · cases h
  · simp only [Option.some.injEq] at h
    subst h
    exact ⟨Int.emod_nonneg _ (by omega), Int.emod_lt_of_pos _ (by omega)⟩

example : randInt 10 1234 = some 4 ∧ randInt 0 5 = none := by decide

end C06Connector

#print axioms C06Connector.mk_exactly_numConn
#print axioms C06Connector.mk_key_agree
#print axioms C06Connector.mk_fallback_run
#print axioms C06Connector.c20_numConn_pos
#print axioms C06Connector.backoff_returned
