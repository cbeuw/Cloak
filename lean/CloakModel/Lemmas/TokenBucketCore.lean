/-! Specification-level token bucket (the `juju/ratelimit` take/adjust discipline in mathematical form: `min`,
`ceilDiv`) and the interval theorems for C19.  `Model/TokenBucket.lean` is the executable transcription of the
library built from the extracted terms; `Props/C19.lean` proves the two agree and re-exports the theorems.

Everything rests on one fact about `take` (`rel_le_iff`): the caller proceeds in the first tick by which the tokens
refilled since its request cover the count.  Products with `q` are multiplied out (`Int.sub_mul`) before `omega`, so
that `t * q` is one atom per tick `t`. -/

namespace TBS

structure B where
  avail : Int
  last  : Int

def adjust (cap q : Int) (b : B) (tick : Int) : B :=
  if b.avail ≥ cap then ⟨b.avail, tick⟩
  else ⟨min cap (b.avail + (tick - b.last) * q), tick⟩

/-- ceil(d/q) as juju computes it -/
def ceilDiv (d q : Int) : Int := (d + q - 1) / q

def take (cap q : Int) (b : B) (tick c : Int) : B × Int :=
  let b' := adjust cap q b tick
  let a := b'.avail - c
  (⟨a, tick⟩, if a ≥ 0 then tick else tick + ceilDiv (-a) q)

def run (cap q : Int) : B → List (Int × Int) → List (Int × Int)
  | _, [] => []
  | b, (t, c) :: r => ((take cap q b t c).2, c) :: run cap q (take cap q b t c).1 r

theorem ceilDiv_le_iff (d q n : Int) (hq : 0 < q) : ceilDiv d q ≤ n ↔ d ≤ n * q := by
  unfold ceilDiv
  rw [← Int.lt_add_one_iff, Int.ediv_lt_iff_lt_mul hq, Int.add_mul, Int.one_mul]
  exact ⟨fun h => by omega, fun h => by omega⟩

/-- a positive debt is paid off after at least one and at most `d` ticks -/
theorem ceilDiv_bounds (d q : Int) (hd : 0 < d) (hq : 0 < q) : 0 < ceilDiv d q ∧ ceilDiv d q ≤ d := by
  have : d * 1 ≤ d * q := Int.mul_le_mul_of_nonneg_left (by omega) (by omega)
  exact ⟨Int.not_le.1 (mt (ceilDiv_le_iff d q 0 hq).1 (by omega)), (ceilDiv_le_iff d q d hq).2 (by omega)⟩

theorem mulMono {x y q : Int} (h : x ≤ y) (hq : 0 < q) : x * q ≤ y * q :=
  Int.mul_le_mul_of_nonneg_right h (Int.le_of_lt hq)

/-- a refill never adds more than the tokens of the ticks gone by, and never lifts the balance above the capacity -/
theorem adjust_avail_le (cap q : Int) (hq : 0 < q) (b : B) (t : Int) :
    (b.last ≤ t → (adjust cap q b t).avail ≤ b.avail + (t - b.last) * q) ∧
    (b.avail ≤ cap → (adjust cap q b t).avail ≤ cap) := by
  refine ⟨fun h => ?_, fun h => ?_⟩
  · have := Int.mul_nonneg (Int.sub_nonneg.2 h) (Int.le_of_lt hq)
    unfold adjust; split <;> simp only <;> omega
  · unfold adjust; split <;> simp only <;> omega

theorem take_fst (cap q : Int) (b : B) (t c : Int) :
    (take cap q b t c).1 = ⟨(adjust cap q b t).avail - c, t⟩ := rfl

/-- the caller proceeds in the first tick from `t` on by which the tokens refilled since cover the count -/
theorem rel_le_iff (cap q : Int) (hq : 0 < q) (b : B) (t c n : Int) :
    (take cap q b t c).2 ≤ n ↔ t ≤ n ∧ c ≤ (adjust cap q b t).avail + (n - t) * q := by
  simp only [take]
  generalize (adjust cap q b t).avail = pre
  split
  · exact ⟨fun h => ⟨h, by have := Int.mul_nonneg (Int.sub_nonneg.2 h) (Int.le_of_lt hq); omega⟩, fun h => h.1⟩
  · rw [show t + ceilDiv (-(pre - c)) q ≤ n ↔ ceilDiv (-(pre - c)) q ≤ n - t from ⟨fun h => by omega, fun h => by omega⟩,
      ceilDiv_le_iff _ _ _ hq]
    refine ⟨fun h => ⟨?_, by omega⟩, fun h => by omega⟩
    -- a positive debt is not covered by the tokens of no ticks
    have : 0 * q < (n - t) * q := by omega
    have := Int.lt_of_mul_lt_mul_right this (Int.le_of_lt hq)
    omega

/-- while the caller still waits, the tokens refilled since its request do not cover the count -/
theorem lt_rel (cap q : Int) (hq : 0 < q) (b : B) (t c n : Int) (hn : n < (take cap q b t c).2) (htn : t ≤ n) :
    (adjust cap q b t).avail + (n - t) * q < c :=
  Int.not_le.1 fun h => absurd ((rel_le_iff cap q hq b t c n).2 ⟨htn, h⟩) (Int.not_le.2 hn)

/-! ### sums over a list of `(release tick, count)` -/

def anyRel (bb : Int) (rs : List (Int × Int)) : Bool := rs.any (fun x => decide (x.1 ≤ bb))

def sumUpToLast (bb : Int) : List (Int × Int) → Int
  | [] => 0
  | (r, c) :: rest => if r ≤ bb ∨ anyRel bb rest = true then c + sumUpToLast bb rest else 0

def windowSum (a bb : Int) : List (Int × Int) → Int
  | [] => 0
  | (r, c) :: rest => (if a ≤ r ∧ r ≤ bb then c else 0) + windowSum a bb rest

/-- bytes released up to and including tick `t` -/
def sumBy (t : Int) : List (Int × Int) → Int
  | [] => 0
  | (r, c) :: rest => (if r ≤ t then c else 0) + sumBy t rest

/-- requests are in non-decreasing tick order starting at `last`, counts positive -/
def Good : Int → List (Int × Int) → Prop
  | _, [] => True
  | last, (t, c) :: r => last ≤ t ∧ 0 < c ∧ Good t r

theorem counts_pos (cap q : Int) : ∀ (reqs : List (Int × Int)) (b : B), Good b.last reqs →
    ∀ x ∈ run cap q b reqs, 0 < x.2 := by
  intro reqs
  induction reqs with
  | nil => intro b _ x hx; simp [run] at hx
  | cons rc rest ih =>
    obtain ⟨t, c⟩ := rc
    intro b hg x hx
    simp only [run, List.mem_cons] at hx
    rcases hx with rfl | hx
    · exact hg.2.1
    · exact ih _ hg.2.2 x hx

theorem sumUpToLast_nonneg (bb : Int) : ∀ l, (∀ x ∈ l, 0 < x.2) → 0 ≤ sumUpToLast bb l := by
  intro l
  induction l with
  | nil => intro _; simp [sumUpToLast]
  | cons x rest ih =>
    obtain ⟨r, c⟩ := x
    intro h
    have hc : 0 < c := h (r, c) (by simp)
    have hr := ih (fun x hx => h x (by simp [hx]))
    simp only [sumUpToLast]
    split <;> omega

theorem sumBy_nonneg (t : Int) : ∀ l : List (Int × Int), (∀ x ∈ l, 0 < x.2) → 0 ≤ sumBy t l := by
  intro l
  induction l with
  | nil => intro _; exact Int.le_refl _
  | cons x rest ih =>
    intro h
    have := h x (by simp)
    have := ih (fun y hy => h y (by simp [hy]))
    simp only [sumBy]; split <;> omega

theorem windowSum_le_sumBy (a bb : Int) : ∀ l : List (Int × Int), (∀ x ∈ l, 0 < x.2) →
    windowSum a bb l ≤ sumBy bb l := by
  intro l
  induction l with
  | nil => intro _; exact Int.le_refl _
  | cons x rest ih =>
    intro h
    have := h x (by simp)
    have := ih (fun y hy => h y (by simp [hy]))
    simp only [windowSum, sumBy]; split <;> split <;> omega

theorem sumBy_eq_window (a t : Int) : ∀ l : List (Int × Int), (∀ x ∈ l, a ≤ x.1) → sumBy t l = windowSum a t l := by
  intro l
  induction l with
  | nil => intro _; rfl
  | cons x rest ih =>
    obtain ⟨r, c⟩ := x
    intro h
    have h1 : a ≤ r := h (r, c) (by simp)
    simp [sumBy, windowSum, h1, ih (fun x hx => h x (by simp [hx]))]

/-! ### upper bound -/

/-- what has been let through by tick `bb` was paid for by the tokens present plus those generated until `bb`
(`max 0`: a bucket in debt beyond that lets nothing through) -/
theorem sumBy_le_potential (cap q : Int) (hq : 0 < q) (bb : Int) :
    ∀ (reqs : List (Int × Int)) (b : B), Good b.last reqs →
      sumBy bb (run cap q b reqs) ≤ max 0 (b.avail + (bb - b.last) * q) := by
  intro reqs
  induction reqs with
  | nil => intro b _; exact Int.le_max_left _ _
  | cons rc rest ih =>
    obtain ⟨t, c⟩ := rc
    intro b ⟨hlt, hc, hgr⟩
    have hpre := (adjust_avail_le cap q hq b t).1 hlt
    have := ih (take cap q b t c).1 hgr
    simp only [take_fst, Int.sub_mul] at hpre this
    simp only [run, sumBy, take_fst, Int.sub_mul]
    split
    next h => have := (rel_le_iff cap q hq b t c bb).1 h; simp only [Int.sub_mul] at this; omega
    next => omega

/-- C19 upper bound: bytes released in any closed tick interval [a, bb]. -/
theorem c19_upper (cap q M : Int) (hcap : 0 < cap) (hq : 0 < q) (a bb : Int) (hab : a ≤ bb) :
    ∀ (reqs : List (Int × Int)) (b : B), Good b.last reqs → b.avail ≤ cap →
      (∀ x ∈ reqs, x.2 ≤ M) →
      windowSum a bb (run cap q b reqs) ≤ max cap (M + q - 1) + (bb - a) * q := by
  intro reqs
  induction reqs with
  | nil =>
    intro b _ _ _
    have := Int.mul_nonneg (Int.sub_nonneg.2 hab) (Int.le_of_lt hq)
    simp only [run, windowSum]; omega
  | cons rc rest ih =>
    obtain ⟨t, c⟩ := rc
    intro b hg hb hM
    have hcM : c ≤ M := hM (t, c) (by simp)
    have hc := hg.2.1
    have hprecap := (adjust_avail_le cap q hq b t).2 hb
    by_cases hin : a ≤ (take cap q b t c).2 ∧ (take cap q b t c).2 ≤ bb
    · -- the first release inside the window: all that follows up to `bb` is paid from the balance it leaves
      have h1 := windowSum_le_sumBy a bb _ (counts_pos cap q _ b hg)
      have h2 := sumBy_le_potential cap q hq bb rest (take cap q b t c).1 hg.2.2
      have hup := ((rel_le_iff cap q hq b t c bb).1 hin.2).2
      simp only [run, sumBy, if_pos hin.2, take_fst, Int.sub_mul] at h1 h2 hup ⊢
      -- released no earlier than `a`: asked for no earlier (and `pre ≤ cap`), or not yet covered at `a - 1` (and `c ≤ M`)
      by_cases hat : a ≤ t
      · have := mulMono hat hq
        omega
      · have := lt_rel cap q hq b t c (a - 1) (by omega) (by omega)
        simp only [Int.sub_mul, Int.one_mul] at this
        omega
    · simp only [run, windowSum, if_neg hin, Int.zero_add]
      exact ih _ hg.2.2 (by simp only [take_fst]; omega) (fun x hx => hM x (by simp [hx]))

/-! ### a backlogged sender is not starved -/

/-- the timed request list of the back-to-back sender: each request is issued in the tick in which the previous
one was released -/
def reqsBL (cap q : Int) : B → Int → List Int → List (Int × Int)
  | _, _, [] => []
  | b, t, c :: r => (t, c) :: reqsBL cap q (take cap q b t c).1 (take cap q b t c).2 r

theorem reqsBL_good (cap q : Int) (hq : 0 < q) : ∀ (cs : List Int) (b : B) (t : Int), b.last ≤ t →
    (∀ c ∈ cs, 0 < c) → Good b.last (reqsBL cap q b t cs) := by
  intro cs
  induction cs with
  | nil => intro b t _ _; trivial
  | cons c r ih =>
    intro b t hbt hc
    exact ⟨hbt, hc c (by simp), ih (take cap q b t c).1 _ ((rel_le_iff cap q hq b t c _).1 (Int.le_refl _)).1
      (fun x hx => hc x (by simp [hx]))⟩

/-- asking again in the tick of one's release finds what was left plus everything generated while waiting: with
`q ≤ cap + 1` the capacity clamp takes nothing from a back-to-back sender -/
theorem refill_exact (cap q : Int) (hq : 0 < q) (hqc : q ≤ cap + 1) (b : B) (T c : Int) (hb : b.avail ≤ cap) (hc : 0 < c) :
    (adjust cap q (take cap q b T c).1 (take cap q b T c).2).avail =
      (adjust cap q b T).avail - c + ((take cap q b T c).2 - T) * q := by
  have hpre := (adjust_avail_le cap q hq b T).2 hb
  obtain ⟨hTr, hcov⟩ := (rel_le_iff cap q hq b T c _).1 (Int.le_refl _)
  have hlow := lt_rel cap q hq b T c ((take cap q b T c).2 - 1) (by omega)
  rw [take_fst]
  generalize (take cap q b T c).2 = r at hTr hcov hlow ⊢
  generalize (adjust cap q b T).avail = pre at hpre hcov hlow ⊢
  simp only [adjust, Int.sub_mul, Int.one_mul] at hcov hlow ⊢
  -- `r` is the first tick that covers `c`: unless `r = T`, tick `r - 1` does not
  by_cases hr : r = T
  · subst hr; split <;> simp only <;> omega
  · have := hlow (by omega)
    split <;> simp only <;> omega

/-- **not starved (core).** A sender that always has the next message ready (message sizes `0 < c ≤ M`) against a
bucket that is not over-full, with `q ≤ cap + 1`: at every tick `t ≥ T` at which it is still waiting for some
message, it has already been let through more than `A + q·(t − T) − M` bytes, where `A` is what the bucket holds at
`T`.  Nothing is lost to the capacity clamp and at most one message (`M`) is ever outstanding. -/
theorem not_starved_core (cap q M : Int) (hq : 0 < q) (hqc : q ≤ cap + 1) :
    ∀ (cs : List Int) (b : B) (T : Int), b.last ≤ T → b.avail ≤ cap → (∀ c ∈ cs, 0 < c ∧ c ≤ M) →
    ∀ t, T ≤ t → (∃ x ∈ run cap q b (reqsBL cap q b T cs), t < x.1) →
      (adjust cap q b T).avail + q * (t - T) - M < sumBy t (run cap q b (reqsBL cap q b T cs)) := by
  intro cs
  induction cs with
  | nil => intro b T _ _ _ t _ hp; obtain ⟨x, hx, _⟩ := hp; simp [reqsBL, run] at hx
  | cons c rest ih =>
    intro b T hbT hbc hcs t hTt hp
    have hc := hcs c (by simp)
    have hrest : ∀ c' ∈ rest, 0 < c' ∧ c' ≤ M := fun x hx => hcs x (by simp [hx])
    have hrel := rel_le_iff cap q hq b T c
    have hT' := ((hrel _).1 (Int.le_refl _)).1
    have hnn := sumBy_nonneg t _ (counts_pos cap q _ (take cap q b T c).1
      (reqsBL_good cap q hq rest _ (take cap q b T c).2 hT' (fun x hx => (hrest x hx).1)))
    simp only [reqsBL, run, sumBy, List.mem_cons, exists_eq_or_imp] at hp ⊢
    by_cases hrt : (take cap q b T c).2 ≤ t
    · -- released by `t`: the message still waited for is a later one
      have hpre := (adjust_avail_le cap q hq b T).2 hbc
      have := ih (take cap q b T c).1 _ hT' (by simp only [take_fst]; omega) hrest t hrt
        (hp.resolve_left (by omega))
      rw [refill_exact cap q hq hqc b T c hbc hc.1] at this
      simp only [if_pos hrt, Int.sub_mul, Int.mul_comm q] at this ⊢
      omega
    · -- still waiting for this one: the tokens of `T..t` do not cover it
      have := lt_rel cap q hq b T c t (Int.not_le.1 hrt) hTt
      simp only [if_neg hrt, Int.sub_mul, Int.mul_comm q] at this ⊢
      omega

end TBS
