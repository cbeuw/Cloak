import CloakModel.Props.E2EDg
import CloakModel.Props.E2EWire

/-! # Datagram mode end to end, from the bytes on each connection (C05 ∘ C04 ∘ C14)

`Props/E2EDg.lean` starts at whole wire messages.  Here the starting point is what a TCP connection really carries: on every
underlying connection the sending endpoint wrote its messages one `TLSConn.Write` each (`Rec.record`), the byte stream
reaches the receiver cut into ANY segments, that connection's receive loop (`switchboard.deplex`) reads record after record
(`Rec.readAll`) and hands every whole one to the session (`recvDataFromRemote` = `E2EDg.recvMsg`: decode, look the stream
up, write into its datagram pipe); the loops of the different connections, the applications' reads and local closes
interleave in any global order.  `E2E.conn_handed` (from `c05_roundtrip`): each loop hands over exactly the messages written
on its connection; `labelled` (from `c04_roundtrip`): each decodes to the frame it was made from;
`c14_end_to_end_bytes(_isolation)` reduce to `E2EDg.c14_end_to_end(_isolation)`; `c14_one_conn_order`: with one connection
the datagrams of a stream come out in the order they were SENT. -/
set_option linter.unusedVariables false

namespace E2EDg
open DG Codec Rec

/-- what happens at the receiving endpoint, as the receiver sees it -/
inductive REv
  | got (conn : Nat) (m : Bytes)
  | read (sid cap : Nat)
  | close (sid : Nat)

def rstep (C : Crypto) (key : Bytes) (t : Tbl) : REv → Tbl
  | .got _ m => recvMsg C key t m
  | .read sid cap => C14.gstep t ⟨sid, .r cap, false⟩
  | .close sid => C14.gstep t ⟨sid, .c, false⟩

def onConn (c : Nat) : REv → Option Bytes
  | .got c' m => if c' = c then some m else none
  | _ => none

/-- the frame a received message stands for (what `deobfuscate` makes of it); the second branch is never taken for a
message the peer made (`label_enc`) -/
def label (C : Crypto) (key : Bytes) : REv → NEv
  | .got _ m =>
    match deobfuscate C key m with
    | .ok fr => .msg fr.sid fr.seq fr.closing fr.payload m
    | _ => .read 0 0
  | .read sid cap => .read sid cap
  | .close sid => .close sid

/-- what the sending endpoint put on a connection: the wire message `m` made from the frame `(sid, seq, closing, d)` -/
structure Sent where
  sid : Nat
  seq : Nat
  closing : UInt8
  d : Bytes
  m : Bytes

theorem label_enc (C : Crypto) (hL : Lawful C) (key : Bytes) (c sid seq : Nat) (closing : UInt8) (d m : Bytes)
    (h : IsEnc C key sid seq closing d m) : label C key (.got c m) = .msg sid seq closing d m := by
  have hd := isEnc_deobf C hL key sid seq closing d m h
  show (match deobfuscate C key m with
    | .ok fr => NEv.msg fr.sid fr.seq fr.closing fr.payload m
    | _ => NEv.read 0 0) = _
  rw [hd]

theorem labelled (C : Crypto) (hL : Lawful C) (key : Bytes) : ∀ (revs : List REv) (t : Tbl),
    (∀ c m, REv.got c m ∈ revs → ∃ sid seq closing d, IsEnc C key sid seq closing d m) →
    revs.foldl (rstep C key) t = (revs.map (label C key)).foldl (recvStep C key) t ∧
    ∀ e ∈ revs.map (label C key), e.ok C key := by
  intro revs t h
  have hstep : ∀ e ∈ revs, (∀ t, rstep C key t e = recvStep C key t (label C key e)) ∧ (label C key e).ok C key := by
    intro e he
    cases e with
    | got c m =>
      obtain ⟨sid, seq, closing, d, henc⟩ := h c m he
      rw [label_enc C hL key c sid seq closing d m henc]
      exact ⟨fun _ => rfl, henc⟩
    | read sid k => exact ⟨fun _ => rfl, trivial⟩
    | close sid => exact ⟨fun _ => rfl, trivial⟩
  refine ⟨?_, fun e he => ?_⟩
  · rw [List.foldl_map]
    exact List.foldl_rel (r := Eq) rfl (fun e he t _ ht => ht ▸ (hstep e he).1 t)
  · obtain ⟨x, hx, rfl⟩ := List.mem_map.1 he
    exact (hstep x hx).2

/-- the per-connection hypotheses: what was sent on connection `c`, how its bytes were cut, which buffers its loop read
with, and that the events of `c` in the global run are what that loop handed over, in order -/
structure Wire (C : Crypto) (key : Bytes) (revs : List REv) where
  sent : Nat → List Sent
  bufs : Nat → List Nat
  cs : Nat → Chunks
  tail : Nat → Bytes
  genuine : ∀ c, ∀ s ∈ sent c, IsEnc C key s.sid s.seq s.closing s.d s.m
  fits : ∀ c, C05.Fits ((sent c).map (·.m)) (bufs c)
  bytes : ∀ c, (cs c).flatten = (((sent c).map (·.m)).map record).flatten ++ tail c
  loop : ∀ c, revs.filterMap (onConn c) = E2E.handedOver (readAll (bufs c) (cs c))

theorem wire_handed (C : Crypto) (key : Bytes) (revs : List REv) (w : Wire C key revs) (c : Nat) :
    revs.filterMap (onConn c) = (w.sent c).map (·.m) := by
  rw [w.loop c, E2E.conn_handed _ _ _ _ (w.fits c) (w.bytes c)]

theorem wire_genuine (C : Crypto) (key : Bytes) (revs : List REv) (w : Wire C key revs) :
    ∀ c m, REv.got c m ∈ revs → ∃ sid seq closing d, IsEnc C key sid seq closing d m := by
  intro c m hm
  have h1 : m ∈ revs.filterMap (onConn c) := by
    rw [List.mem_filterMap]
    exact ⟨.got c m, hm, by simp [onConn]⟩
  rw [wire_handed C key revs w c, List.mem_map] at h1
  obtain ⟨s, hs, hsm⟩ := h1
  exact ⟨s.sid, s.seq, s.closing, s.d, hsm ▸ w.genuine c s hs⟩

/-- **C14 end to end from the bytes (exactly once, whole, while the stream stays open).**  Every frame of every stream was
encoded (any lawful cipher, key, sequence number, padding) and written as one record on some connection; each connection's
byte stream arrived cut into ANY segments; each receive loop read records and handed them to the session; loops, application
reads and local closes interleaved in ANY global order.  If nothing closes stream `sid`, then whenever it exists its pipe
is open and what its reads returned followed by what it still queues is exactly the list of datagrams sent on `sid`, in
the order the loops handed them over — each once, whole, unmixed. -/
theorem c14_end_to_end_bytes (C : Crypto) (hL : Lawful C) (key : Bytes) (sid : Nat) (revs : List REv) (w : Wire C key revs)
    (hopen : ∀ e ∈ revs.map (label C key), KeepsOpen sid e) :
    ∀ s, (revs.foldl (rstep C key) (fun _ => none)) sid = some s →
      s.p.closed = false ∧
      ∃ q, C14.dataOf s.outs ++ q = sentTo sid (revs.map (label C key)) ∧ s.p.lens = q.map List.length ∧ s.p.buf = q.flatten := by
  intro s hs
  obtain ⟨h1, h2⟩ := labelled C hL key revs (fun _ => none) (wire_genuine C key revs w)
  rw [h1] at hs
  exact c14_end_to_end C hL key sid _ h2 hopen s hs

/-- **C14 end to end from the bytes (isolation, every reachable state, closes included).** -/
theorem c14_end_to_end_bytes_isolation (C : Crypto) (hL : Lawful C) (key : Bytes) (sid : Nat) (revs : List REv)
    (w : Wire C key revs) :
    ∀ s, (revs.foldl (rstep C key) (fun _ => none)) sid = some s →
      (∃ q, C14.dataOf s.outs ++ q = s.acc ∧ s.p.lens = q.map List.length ∧ s.p.buf = q.flatten) ∧
      s.acc.Sublist (sentTo sid (revs.map (label C key))) := by
  intro s hs
  obtain ⟨h1, h2⟩ := labelled C hL key revs (fun _ => none) (wire_genuine C key revs w)
  rw [h1] at hs
  exact c14_end_to_end_isolation C hL key sid _ h2 s hs

/-! ### one connection: arrival order is sending order -/

/-- the datagrams of stream `sid` among what was sent on a connection, in sending order -/
def sentOn (sid : Nat) : List Sent → List Bytes
  | [] => []
  | s :: r => if s.sid = sid then s.d :: sentOn sid r else sentOn sid r

/-- `sentTo` depends only on the messages handed over, and for genuine ones it is the sender's list -/
theorem sentTo_of_handed (C : Crypto) (hL : Lawful C) (key : Bytes) (sid c : Nat) :
    ∀ (revs : List REv) (ss : List Sent),
      (∀ c' m, REv.got c' m ∈ revs → c' = c) →
      revs.filterMap (onConn c) = ss.map (·.m) →
      (∀ s ∈ ss, IsEnc C key s.sid s.seq s.closing s.d s.m) →
      sentTo sid (revs.map (label C key)) = sentOn sid ss := by
  intro revs
  induction revs with
  | nil =>
    intro ss _ hh _
    cases ss with
    | nil => rfl
    | cons s r => simp at hh
  | cons e r ih =>
    intro ss hc hh hg
    cases e with
    | got c' m =>
      have hcc : c' = c := hc c' m (by simp)
      subst hcc
      cases ss with
      | nil => simp [onConn] at hh
      | cons s rs =>
        simp only [List.filterMap_cons, onConn, if_true, List.map_cons, List.cons.injEq] at hh
        obtain ⟨hm, hrest⟩ := hh
        have hs := hg s (by simp)
        rw [← hm] at hs
        simp only [List.map_cons]
        rw [label_enc C hL key c' s.sid s.seq s.closing s.d m hs]
        have := ih rs (fun c'' m' hm' => hc c'' m' (by simp [hm'])) hrest (fun x hx => hg x (by simp [hx]))
        simp only [sentTo, sentOn, this]
    | read s k => exact ih ss (fun c'' m' hm' => hc c'' m' (List.mem_cons_of_mem _ hm')) hh hg
    | close s => exact ih ss (fun c'' m' hm' => hc c'' m' (List.mem_cons_of_mem _ hm')) hh hg

/-- **One connection: datagrams come out in the order they were sent.**  If every message reached the receiver over
connection `c` (one underlying connection, or a stream whose frames all travel on its assigned connection while nothing else
arrives), then — `sid` not being closed — what `sid`'s reads returned followed by what it still queues is exactly the list of
datagrams the peer wrote on `sid`, in WRITING order. -/
theorem c14_one_conn_order (C : Crypto) (hL : Lawful C) (key : Bytes) (sid c : Nat) (revs : List REv) (w : Wire C key revs)
    (hone : ∀ c' m, REv.got c' m ∈ revs → c' = c)
    (hopen : ∀ e ∈ revs.map (label C key), KeepsOpen sid e) :
    ∀ s, (revs.foldl (rstep C key) (fun _ => none)) sid = some s →
      ∃ q, C14.dataOf s.outs ++ q = sentOn sid (w.sent c) ∧ s.p.lens = q.map List.length ∧ s.p.buf = q.flatten := by
  intro s hs
  obtain ⟨_, q, hq, hl, hb⟩ := c14_end_to_end_bytes C hL key sid revs w hopen s hs
  refine ⟨q, ?_, hl, hb⟩
  rw [hq]
  exact sentTo_of_handed C hL key sid c revs (w.sent c) hone (wire_handed C key revs w c) (w.genuine c)

/-! ### the hypotheses are satisfiable

One connection, the toy AEAD cipher: two datagrams of stream 7 written as two records, the byte stream cut inside the first
record's header and across the record boundary, the loop reading with 20480-byte buffers, then two application reads. -/
namespace WitnessW
open C04 Witness

def m1 : Bytes := enc 7 0 [1, 2, 3]
def m2 : Bytes := enc 7 1 [4]
def wrevs : List REv := [.got 0 m1, .read 7 2, .got 0 m2, .read 7 3]
def stream : Bytes := record m1 ++ record m2
def wsegs : Chunks := [stream.take 3, (stream.drop 3).take 40, stream.drop 43]

theorem enc1 : IsEnc toy [] 7 0 0 [1, 2, 3] m1 :=
  enc_isEnc 7 0 [1, 2, 3] (by decide) (by decide) (by decide) (by unfold C04.fitsBuf; decide)
theorem enc2 : IsEnc toy [] 7 1 0 [4] m2 :=
  enc_isEnc 7 1 [4] (by decide) (by decide) (by decide) (by unfold C04.fitsBuf; decide)

def wire : Wire toy [] wrevs where
  sent := fun c => if c = 0 then [⟨7, 0, 0, [1, 2, 3], m1⟩, ⟨7, 1, 0, [4], m2⟩] else []
  bufs := fun c => if c = 0 then [20480, 20480] else []
  cs := fun c => if c = 0 then wsegs else []
  tail := fun _ => []
  genuine := by
    intro c s hs
    by_cases h : c = 0
    · simp only [h, if_true, List.mem_cons, List.mem_nil_iff, or_false] at hs
      rcases hs with hs | hs
      · subst hs; exact enc1
      · subst hs; exact enc2
    · simp [h] at hs
  fits := by
    intro c
    by_cases h : c = 0
    · simp only [h, if_true, List.map_cons, List.map_nil]
      exact .cons (by decide) (by decide) (by decide) (.cons (by decide) (by decide) (by decide) .nil)
    · simp only [h, if_false, List.map_nil]; exact .nil
  bytes := by
    intro c
    by_cases h : c = 0
    · simp only [h, if_true]; decide
    · simp [h]
  loop := by
    intro c
    by_cases h : c = 0
    · subst h
      simp only [if_true]
      rw [E2E.conn_handed [m1, m2] [20480, 20480] [] wsegs
        (.cons (by decide) (by decide) (by decide) (.cons (by decide) (by decide) (by decide) .nil)) (by decide)]
      rfl
    · have h' : ¬ (0 = c) := fun e => h e.symm
      simp [h, h', wrevs, onConn, readAll, E2E.handedOver]

/-- the run of the witness: a short read, then the first datagram whole; the second is queued -/
example : ((wrevs.foldl (rstep toy []) (fun _ => none)) 7).map (fun s => (s.outs, s.p.lens, s.p.buf)) =
    some ([.short, .data [1, 2, 3]], [1], [4]) := by decide

end WitnessW

end E2EDg

#print axioms E2EDg.c14_end_to_end_bytes
#print axioms E2EDg.c14_end_to_end_bytes_isolation
#print axioms E2EDg.c14_one_conn_order
