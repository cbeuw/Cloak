import CloakModel.Model.TLSWire

/-! Lemmas about the record parser of the validator and the byte-level mirrors of `Model/TLSWire.lean`. -/
set_option linter.unusedVariables false

namespace TLSWire
open Gen.Wire

theorem be16_toNat (n : Nat) (h : n < 65536) : (UInt8.ofNat (n / 256)).toNat * 256 + (UInt8.ofNat n).toNat = n := by
  rw [UInt8.toNat_ofNat', UInt8.toNat_ofNat']
  have : n / 256 < 256 := by omega
  rw [Nat.mod_eq_of_lt (show n / 256 < 2 ^ 8 by omega)]
  omega

/-- more fuel than bytes is always enough: the result does not depend on the fuel -/
theorem parseRecords_fuel2 : ∀ (f1 f2 : Nat) (b : Bytes), b.length < f1 → b.length < f2 → parseRecords f1 b = parseRecords f2 b := by
  intro f1
  induction f1 with
  | zero => intro f2 b h; omega
  | succ f1 ih =>
    intro f2 b h1 h2
    cases f2 with
    | zero => omega
    | succ f2 =>
      match b with
      | [] => simp [parseRecords]
      | [_] => simp [parseRecords]
      | [_, _] => simp [parseRecords]
      | [_, _, _] => simp [parseRecords]
      | [_, _, _, _] => simp [parseRecords]
      | t :: v0 :: v1 :: l0 :: l1 :: rest =>
        simp only [parseRecords]
        split
        · rfl
        · rename_i hlen
          simp only [List.length_cons] at h1 h2
          rw [ih f2 (rest.drop (l0.toNat * 256 + l1.toNat)) (by simp; omega) (by simp; omega)]

theorem parseRecords_fuel (fuel : Nat) (b : Bytes) (h : b.length < fuel) : parseRecords fuel b = parseRecords (b.length + 1) b :=
  parseRecords_fuel2 fuel (b.length + 1) b h (by omega)

/-- one record in front of a stream: the parser peels it off -/
theorem records_cons (t v0 v1 : UInt8) (body rest : Bytes) (h : body.length < 65536) :
    records (t :: v0 :: v1 :: UInt8.ofNat (body.length / 256) :: UInt8.ofNat body.length :: (body ++ rest)) =
      (records rest).map (⟨t, [v0, v1], body⟩ :: ·) := by
  unfold records
  simp only [List.length_cons, parseRecords]
  rw [be16_toNat _ h]
  rw [if_neg (by simp)]
  rw [List.drop_left' rfl, List.take_left' rfl]
  rw [parseRecords_fuel _ rest (by simp; omega)]

theorem records_nil : records [] = some [] := by simp [records, parseRecords]

end TLSWire
