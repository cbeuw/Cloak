import CloakModel.Lemmas.PanelStep
import CloakModel.Lemmas.PanelInv

/-! # C15 — Connections join the right session; the per-user session cap is never exceeded

Model: `Model/Panel.lean`. `getSession` is ONE atomic step because the extractor saw lookup, authorisation and
insert inside one `sessionsM` critical section (`gen_structure`); the authorisation is the list of translated
comparisons `Gen.Panel.authoriseChecks` (`gen_authorise` says what they mean). The premise "one active record per
user" is C17's invariant (`C17.c17_single_record`); C15's theorems are per record, as the property's quantifier
excludes that race.

A connection REFUSED by `GetSession` then cleans up (`Panel.refusedCleanup`, a separate step of the same admission).
On the tree before the C15 repair that step is `CloseSession(<the connection's own session id>)` and closes a session a
sibling connection has created in between: `c15_refused_cleanup_witness`. The full statement `c15_same_session_full`
lets every such clean-up (and the termination it may start) happen at any moment. -/

namespace C15
open Panel

/-! ## 1. What the extracted facts mean -/

/-- OBLIGATION: AuthoriseNewSession lets a new session through exactly when both credits are positive, the
expiry has not passed and the number of existing sessions is below the cap (whatever the order of the tests) -/
theorem gen_authorise (uc dc e now : Int) (n : Nat) (c : Int) :
    firstFail (Gen.Panel.authoriseChecks uc dc e now n c) = none ↔ (0 < uc ∧ 0 < dc ∧ now ≤ e ∧ (n : Int) < c) := by
  rw [firstFail_none]
  simp only [Gen.Panel.authoriseChecks, List.forall_mem_cons, List.not_mem_nil, false_imp_iff, implies_true, and_true,
    decide_eq_false_iff_not]
  omega

/-- OBLIGATION: AuthenticateUser (activation of a user) -/
theorem gen_authenticate (uc dc e now : Int) :
    firstFail (Gen.Panel.authenticateChecks uc dc e now) = none ↔ (0 < uc ∧ 0 < dc ∧ now ≤ e) := by
  rw [firstFail_none]
  simp only [Gen.Panel.authenticateChecks, List.forall_mem_cons, List.not_mem_nil, false_imp_iff, implies_true, and_true,
    decide_eq_false_iff_not]
  omega

/-- OBLIGATION: structure the model relies on — one critical section per operation; `len(u.sessions)` is what
is compared with the cap; the cap is read as `int(u32(·))` of what `i32ToB` wrote; credits/expiry read from
their own keys; the reply key is the joined session's key; the session gets the user's valve and is stored under
the id it was asked for; only bypass users skip the authorisation. -/
theorem gen_structure :
    Gen.Panel.getSessionUnderLock = true ∧ Gen.Panel.closeSessionUnderLock = true ∧
    Gen.Panel.closeAllSessionsUnderLock = true ∧ Gen.Panel.numSessionUnderLock = true ∧
    Gen.Panel.getUserUnderLock = true ∧ Gen.Panel.getBypassUserUnderLock = true ∧
    Gen.Panel.numExistingIsLen = true ∧ Gen.Panel.authoriseArgIsOwnUID = true ∧
    Gen.Panel.authoriseUnlessBypass = true ∧ Gen.Panel.capWrittenAsU32 = true ∧
    Gen.Panel.authoriseReads = [("sessionsCap", "int(u32", "SessionsCap"), ("upCredit", "int64(u64", "UpCredit"),
      ("downCredit", "int64(u64", "DownCredit"), ("expiryTime", "int64(u64", "ExpiryTime")] ∧
    Gen.Panel.authenticateReads = [("upRate", "int64(u64", "UpRate"), ("downRate", "int64(u64", "DownRate"),
      ("upCredit", "int64(u64", "UpCredit"), ("downCredit", "int64(u64", "DownCredit"), ("expiryTime", "int64(u64", "ExpiryTime")] ∧
    Gen.Panel.replyKeyIsSessionKey = true ∧ Gen.Panel.connAddedToJoinedSession = true ∧
    Gen.Panel.sessionKeyGetter = true ∧ Gen.Panel.valveFromUser = true ∧ Gen.Panel.sessionStoredUnderId = true := by
  and_intros <;> rfl

/-- OBLIGATION (C15 repair): a connection refused by `GetSession` does not name a session when it cleans up — it calls
the parameterless helper that terminates the record only if it is empty and retires it in the same `sessionsM`
section; `GetSession` refuses retired records. (`refusedCleanupCall` is the name the harness shim calls.) -/
theorem gen_refused_cleanup :
    Gen.Panel.refusedCleanupClosesOwnId = false ∧ Gen.Panel.refusedCleanupIfEmpty = true ∧
    Gen.Panel.refusedCleanupRetires = true ∧ Gen.Panel.refusedCleanupCall = "terminateIfEmpty" ∧
    Gen.Panel.getSessionChecksRetired = true := by and_intros <;> rfl

theorem capEff_nonneg (c : Int) : 0 ≤ capEff c := by unfold capEff; omega
theorem capEff_small (c : Int) (h0 : 0 ≤ c) (h1 : c < 4294967296) : capEff c = c := by unfold capEff; omega

/-! ## 2. Per-step facts -/

theorem authoriseNew_none {store : List (Nat × Info)} {uid : Nat} {now : Int} {n : Nat}
    (h : authoriseNew store uid now n = none) :
    ∃ i, lookup store uid = some i ∧ 0 < i.upCredit ∧ 0 < i.downCredit ∧ now ≤ i.expiry ∧ (n : Int) < capEff i.cap := by
  unfold authoriseNew at h
  split at h
  · cases h
  · rename_i i hi
    exact ⟨i, hi, (gen_authorise _ _ _ _ _ _).1 h⟩

-- `created_spec`, `joined_spec`, `other_spec` (what each answer of `getSession` says) are in `Lemmas/PanelSpec.lean`

/-! ## 3. The cap -/

/-- invariant for a user `u` whose stored cap never exceeds `C` -/
structure CapInv (u : Nat) (C : Nat) (s : St) : Prop where
  store : ∀ i, lookup s.store u = some i → capEff i.cap ≤ (C : Int)
  recs : ∀ (rid : Nat) (r : Rec), s.recs[rid]? = some r → r.uid = u → r.bypass = false → r.sessions.length ≤ C

def capOk (u : Nat) (C : Nat) : Ev → Prop
  | .put u' i => u' = u → capEff i.cap ≤ (C : Int)
  | _ => True

theorem capInv_step (cfg : Cfg) (u C : Nat) (s : St) (e : Ev) (he : capOk u C e) (h : CapInv u C s) :
    CapInv u C (step cfg s e) := by
  have eff := step_effect cfg s e
  refine ⟨fun i hi => ?_, fun j x hx hu hb => ?_⟩
  · rcases eff.stored u i hi with h' | rfl
    · exact h.store i h'
    · exact he rfl
  · rcases eff.origin hx with ⟨r, hr, hs⟩ | ⟨h0, _⟩
    · have hle := h.recs j r hr (hs.uid ▸ hu) (hs.bypass ▸ hb)
      cases hs with
      | add sid key now _ _ hauth =>
        -- the admission compared `len(sessions)` with the stored cap
        obtain ⟨i, hi, _, _, _, hlt⟩ := authoriseNew_none (hauth hb)
        have := h.store i (hu ▸ hi)
        simp only [List.length_cons]; omega
      | close sid => rw [Rec.close_sessions]; exact Nat.le_trans (List.length_filter_le _ _) hle
      | cleanupClose sid => rw [Rec.close_sessions]; exact Nat.le_trans (List.length_filter_le _ _) hle
      | clear => exact Nat.zero_le _
      | _ => exact hle
    · rw [h0]; exact Nat.zero_le _

/-- **C15 cap**: for every schedule of admissions, closures, terminations and admin edits in which the cap stored
for `u` never exceeds `C`, no record of the limited user `u` ever holds more than `C` sessions — in every
reachable state. (`C = 0`: none at all.) -/
theorem c15_cap (cfg : Cfg) (u C : Nat) (evs : List Ev) (hev : ∀ e ∈ evs, capOk u C e) :
    ∀ (rid : Nat) (r : Rec), (run cfg init evs).recs[rid]? = some r → r.uid = u → r.bypass = false →
      r.sessions.length ≤ C :=
  (List.foldlRecOn (motive := CapInv u C) evs (step cfg)
    ⟨by intro i hi; simp [init, lookup] at hi, by intro rid r hr; simp [init] at hr⟩
    (fun s hs e he => capInv_step cfg u C s e (hev e he) hs)).recs

theorem c15_cap_zero (cfg : Cfg) (u : Nat) (evs : List Ev) (hev : ∀ e ∈ evs, capOk u 0 e)
    (rid : Nat) (r : Rec) (hr : (run cfg init evs).recs[rid]? = some r) (hu : r.uid = u) (hb : r.bypass = false) :
    r.sessions = [] := by
  have := c15_cap cfg u 0 evs hev rid r hr hu hb
  exact List.eq_nil_of_length_eq_zero (by omega)

def info2 : Info := ⟨2, 1000, 1000, 50, 50, 100⟩

/-- non-vacuity: cap 2, four simultaneous requests for three ids: two created, one joined, one refused -/
example :
    let s0 := run pinnedCfg init [.put 7 info2, .getUser 7 false 10]
    let r1 := getSession pinnedCfg s0 0 1 100 10
    let r2 := getSession pinnedCfg r1.1 0 2 200 10
    let r3 := getSession pinnedCfg r2.1 0 1 300 10
    let r4 := getSession pinnedCfg r3.1 0 3 400 10
    (r1.2, r2.2, r3.2, r4.2) = (.created 100, .created 200, .joined 100, .refused "ErrSessionsCapReached") := by
  decide

/-! ## 4. Same (uid, session id) ⇒ same session and key -/

/-- events that remove session `sid` of record `rid` (its closure, or the record's termination) -/
def removes (rid sid : Nat) : Ev → Prop
  | .closeLocked r s => r = rid ∧ s = sid
  | .closeAll r => r = rid
  | .retire r => r = rid
  | _ => False

/-- session `sid` of record `rid` is there with key `K`, and `getSession` would not turn the record down -/
def Attached (cfg : Cfg) (rid sid K : Nat) (s : St) : Prop :=
  ∃ r, s.recs[rid]? = some r ∧ lookup r.sessions sid = some K ∧ (cfg.checksRetired = true → r.retired = false)

/-- while session `sid` of record `rid` is not removed, it stays the same entry with the same key -/
theorem entry_stable (cfg : Cfg) (hcl : cfg.cleanupNamesSession = false) (rid sid K : Nat) (s : St) (e : Ev)
    (hne : ¬ removes rid sid e) (h : Attached cfg rid sid K s) : Attached cfg rid sid K (step cfg s e) := by
  obtain ⟨r, hr, hl, hret⟩ := h
  obtain ⟨r', hr', hs⟩ := (step_effect cfg s e).old rid r hr
  refine ⟨r', hr', ?_⟩
  cases hs with
  | skip => exact ⟨hl, hret⟩
  | add sid' key now hfree =>
    have : sid' ≠ sid := by rintro rfl; rw [hl] at hfree; cases hfree
    exact ⟨by simp only; rw [lookup_cons, if_neg this]; exact hl, hret⟩
  | close sid' =>
    have hl' : lookup (r.close sid').sessions sid = some K := by
      rw [Rec.close_sessions, lookup_filter_ne _ _ _ (fun e => hne ⟨rfl, e.symm⟩)]; exact hl
    -- the record is not left empty, so this closure does not retire it
    exact ⟨hl', by rw [Rec.close_retired _ _ (lookup_ne_nil hl')]; exact hret⟩
  | cleanupClose sid' hn => rw [hcl] at hn; cases hn
  | cleanup sid' => exact ⟨hl, by simpa [lookup_ne_nil hl] using hret⟩
  | retire => exact absurd rfl hne
  | clear => exact absurd rfl hne

/-- the answer a connection gets when it is attached: the session's key -/
def attachedKey : Res → Option Nat
  | .joined k => some k
  | .created k => some k
  | _ => none

/-- the entry a successful `getSession` leaves behind -/
theorem attached_entry (cfg : Cfg) (s : St) (rid sid k1 : Nat) (now1 : Int) (K : Nat)
    (h1 : attachedKey (getSession cfg s rid sid k1 now1).2 = some K) :
    Attached cfg rid sid K (getSession cfg s rid sid k1 now1).1 := by
  rcases getSession_spec cfg s rid sid k1 now1 with ⟨r, hr, _, hnr, _, he⟩ | ⟨r, k, hr, hl, hnr, he⟩ | ⟨res, he, hres⟩ <;>
    rw [he] at h1 ⊢
  · cases h1
    exact ⟨_, getElem?_set_eq' _ _ _ _ hr, by simp only; rw [lookup_cons, if_pos rfl], hnr⟩
  · cases h1
    exact ⟨r, hr, hl, hnr⟩
  · rcases hres with ⟨w, rfl⟩ | rfl | rfl <;> cases h1

/-- a connection presenting `(rid, sid)` while that entry is there joins it -/
theorem joins_entry (cfg : Cfg) (s' : St) (rid sid k2 : Nat) (now2 : Int) (K : Nat)
    (h : Attached cfg rid sid K s') :
    (getSession cfg s' rid sid k2 now2).2 = .joined K := by
  obtain ⟨r, hr, hl, hret⟩ := h
  unfold getSession
  simp only [hr, hl]
  by_cases hc : cfg.checksRetired = true
  · simp [hc, hret hc]
  · have : cfg.checksRetired = false := by simpa using hc
    simp [this]

/-- **C15 same session, core**: a connection is attached to session `(rid, sid)` with key `K` (created or joined);
then ANY interleaving `mid` of other admissions (refused ones and their clean-up included), closures of other
sessions, terminations of other records and admin edits happens; then another connection presents the same
`(rid, sid)` (offering whatever fresh key, at whatever time): it JOINS, and is given the same key `K`.
(Any starting state; `c15_same_session` below also lets terminations of THIS record appear in `mid` when a refused
connection's clean-up started them.) -/
theorem c15_same_session_core (cfg : Cfg) (hcl : cfg.cleanupNamesSession = false)
    (s : St) (rid sid k1 k2 : Nat) (now1 now2 : Int) (mid : List Ev) (K : Nat)
    (h1 : attachedKey (getSession cfg s rid sid k1 now1).2 = some K)
    (hmid : ∀ e ∈ mid, ¬ removes rid sid e) :
    (getSession cfg (run cfg (getSession cfg s rid sid k1 now1).1 mid) rid sid k2 now2).2 = .joined K := by
  exact joins_entry cfg _ rid sid k2 now2 K
    (List.foldlRecOn (motive := Attached cfg rid sid K) mid (step cfg) (attached_entry cfg s rid sid k1 now1 K h1)
      (fun s hs e he => entry_stable cfg hcl rid sid K s e (hmid e he) hs))

/-! ## 4b. Full statement: refused connections clean up (and may terminate an empty record) at any moment -/

/-- records whose termination a refused connection's clean-up has started (it found them empty): the thread goes on
with `TerminateActiveUser`, i.e. `retire`, `closeAll`, `deleteRec` of that record -/
def licStep (cfg : Cfg) (s : St) (lic : List Nat) : Ev → List Nat
  | .refusedCleanup r x => if (refusedCleanup cfg s r x).2 = some true then r :: lic else lic
  | _ => lic

def licensed (cfg : Cfg) : St → List Nat → List Ev → List Nat
  | _, lic, [] => lic
  | s, lic, e :: rest => licensed cfg (step cfg s e) (licStep cfg s lic e) rest

/-- what C15's quantifier lets happen while a connection is attached to `(rid, sid)`: everything — other admissions
(refused ones and their clean-up included, for this very pair too), closures of other sessions, admin edits, any step
on other records — except the closure of that very session and a termination of its record that was NOT started by a
refused connection's clean-up (last-session closure, TERMINATE verdict: "that race is C17's") -/
def allowed (rid sid : Nat) (lic : List Nat) : Ev → Prop
  | .closeLocked r x => ¬ (r = rid ∧ x = sid)
  | .retire r => r = rid → rid ∈ lic
  | .closeAll r => r = rid → rid ∈ lic
  | _ => True

instance allowedDec (rid sid : Nat) (lic : List Nat) : (e : Ev) → Decidable (allowed rid sid lic e)
  | .closeLocked r x => inferInstanceAs (Decidable (¬ (r = rid ∧ x = sid)))
  | .retire r => inferInstanceAs (Decidable (r = rid → rid ∈ lic))
  | .closeAll r => inferInstanceAs (Decidable (r = rid → rid ∈ lic))
  | .put _ _ => isTrue trivial
  | .del _ => isTrue trivial
  | .getUser _ _ _ => isTrue trivial
  | .getSession _ _ _ _ => isTrue trivial
  | .deleteRec _ => isTrue trivial
  | .refusedCleanup _ _ => isTrue trivial

def Quant (cfg : Cfg) (rid sid : Nat) : St → List Nat → List Ev → Prop
  | _, _, [] => True
  | s, lic, e :: rest => allowed rid sid lic e ∧ Quant cfg rid sid (step cfg s e) (licStep cfg s lic e) rest

instance quantDec (cfg : Cfg) (rid sid : Nat) : (s : St) → (lic : List Nat) → (mid : List Ev) → Decidable (Quant cfg rid sid s lic mid)
  | _, _, [] => isTrue trivial
  | s, lic, e :: rest =>
    have := quantDec cfg rid sid (step cfg s e) (licStep cfg s lic e) rest
    inferInstanceAs (Decidable (allowed rid sid lic e ∧ Quant cfg rid sid (step cfg s e) (licStep cfg s lic e) rest))

/-- **C15 same session, full statement** for a tree with facts `cfg`: after ANY history `pre` of the bookkeeping model,
a connection is attached to `(rid, sid)` with key `K`; then any `mid` the quantifier allows (`Quant`; the terminations
licensed by clean-ups of `pre` count); then a connection presenting `(rid, sid)` joins and gets `K`. -/
def c15_same_session_full (cfg : Cfg) : Prop :=
  ∀ (pre mid : List Ev) (rid sid k1 k2 : Nat) (now1 now2 : Int) (K : Nat),
    attachedKey (getSession cfg (run cfg init pre) rid sid k1 now1).2 = some K →
    Quant cfg rid sid (getSession cfg (run cfg init pre) rid sid k1 now1).1 (licensed cfg init [] pre) mid →
    (getSession cfg (run cfg (getSession cfg (run cfg init pre) rid sid k1 now1).1 mid) rid sid k2 now2).2 = .joined K

/-- every licensed record is retired (needs the clean-up to retire what it finds empty, in the same critical section) -/
def LicInv (s : St) (lic : List Nat) : Prop := ∀ j ∈ lic, ∃ x, s.recs[j]? = some x ∧ x.retired = true

theorem licInv_step (cfg : Cfg) (hcl : cfg.cleanupNamesSession = false) (hcr : cfg.cleanupRetires = true)
    (s : St) (lic : List Nat) (e : Ev) (h : LicInv s lic) : LicInv (step cfg s e) (licStep cfg s lic e) := by
  intro j hj
  have hold : j ∈ lic → ∃ x, (step cfg s e).recs[j]? = some x ∧ x.retired = true := by
    intro hj'
    obtain ⟨x, hx, hret⟩ := h j hj'
    obtain ⟨x', hx', hs⟩ := (step_effect cfg s e).old j x hx
    exact ⟨x', hx', hs.retired hret⟩
  cases e with
  | refusedCleanup r x =>
    simp only [licStep] at hj
    split at hj
    · rename_i ht
      rcases List.mem_cons.1 hj with rfl | hj'
      · obtain ⟨rec, hrec, _, hrecs⟩ := refusedCleanup_terminate_spec hcl ht
        simp only [step]
        rw [hrecs]
        exact ⟨_, getElem?_set_eq' _ _ _ _ hrec, by simp [hcr]⟩
      · exact hold hj'
    · exact hold hj
  | _ => exact hold hj

theorem licInv_run (cfg : Cfg) (hcl : cfg.cleanupNamesSession = false) (hcr : cfg.cleanupRetires = true) (evs : List Ev) :
    ∀ (s : St) (lic : List Nat), LicInv s lic → LicInv (run cfg s evs) (licensed cfg s lic evs) := by
  induction evs with
  | nil => intro s lic h; exact h
  | cons e rest ih => intro s lic h; exact ih _ _ (licInv_step cfg hcl hcr s lic e h)

/-- while `(rid, sid)` is attached (entry there, record not retired) nothing the quantifier allows removes it: a
licensed termination never concerns this record, because a licensed record is retired -/
theorem quant_run (cfg : Cfg) (hcl : cfg.cleanupNamesSession = false) (hcr : cfg.cleanupRetires = true)
    (hck : cfg.checksRetired = true) (rid sid K : Nat) (mid : List Ev) :
    ∀ (s : St) (lic : List Nat),
      Attached cfg rid sid K s → LicInv s lic → Quant cfg rid sid s lic mid → Attached cfg rid sid K (run cfg s mid) := by
  induction mid with
  | nil => intro s lic h _ _; exact h
  | cons e rest ih =>
    intro s lic h hlic hq
    obtain ⟨hal, hrest⟩ := hq
    have hnotlic : rid ∉ lic := by
      intro hin
      obtain ⟨x, hx, hxr⟩ := hlic rid hin
      obtain ⟨r, hr, _, hnr⟩ := h
      rw [hr] at hx; cases hx
      rw [hnr hck] at hxr; cases hxr
    have hne : ¬ removes rid sid e := by
      intro hrem
      cases e with
      | closeLocked r x => exact hal hrem
      | retire r | closeAll r => exact hnotlic (hal hrem)
      | _ => exact hrem
    exact ih _ _ (entry_stable cfg hcl rid sid K s e hne h) (licInv_step cfg hcl hcr s lic e hlic) hrest

theorem c15_same_session_of (cfg : Cfg) (hcl : cfg.cleanupNamesSession = false) (hcr : cfg.cleanupRetires = true)
    (hck : cfg.checksRetired = true) : c15_same_session_full cfg := by
  intro pre mid rid sid k1 k2 now1 now2 K h1 hq
  apply joins_entry
  apply quant_run cfg hcl hcr hck rid sid K mid _ _ (attached_entry cfg _ rid sid k1 now1 K h1) ?_ hq
  -- the attaching `getSession` changes no `retired` flag
  have hpre := licInv_run cfg hcl hcr pre init [] (by intro j hj; cases hj)
  intro j hj
  obtain ⟨x, hx, hxr⟩ := hpre j hj
  obtain ⟨x', hx', hs⟩ := (step_effect cfg _ (.getSession rid sid k1 now1)).old j x hx
  exact ⟨x', hx', hs.retired hxr⟩

/-- **C15 same session** (full strength, from the facts of the CURRENT tree): all connections presenting the same
record and session id are attached to one session and get its key, in whatever order they arrive and whatever else
happens in between — other admissions, refused connections cleaning up (also for this very pair) and terminating
the records they found empty, closures of other sessions, admin edits. -/
theorem c15_same_session : c15_same_session_full genCfg :=
  c15_same_session_of genCfg gen_refused_cleanup.1 gen_refused_cleanup.2.2.1 gen_refused_cleanup.2.2.2.2

/-- the link from "same UID" to "same record" (C17's invariant, with either clean-up): in every reachable state a
record that holds a session IS the record a connection of that user is resolved to -/
theorem c15_connection_resolves_record (names retires : Bool) (evs : List Ev) (rid : Nat) (r : Rec)
    (hr : (run (orphanRepaired names retires) init evs).recs[rid]? = some r) (hne : r.sessions ≠ []) (bp : Bool) (now : Int) :
    (getUser (run (orphanRepaired names retires) init evs) r.uid bp now).2 = .ok rid false := by
  have := inv_single (inv_run (a := names) (b := retires) evs inv_init) rid r hr hne
  unfold getUser
  simp [this]

/-- the schedule of the finding: the user (cap 2) holds sessions 101 and 102; connection A presenting 555 is refused;
session 101 ends (102 remains); connection B presenting 555 creates the session with key 4; A's error path runs;
connection C presents 555 -/
def siblingPre : List Ev :=
  [.put 7 info2, .getUser 7 false 10, .getSession 0 101 1 10, .getSession 0 102 2 10,
   .getSession 0 555 3 10,       -- A: refused, ErrSessionsCapReached
   .closeLocked 0 101]           -- X1 ends, not the user's last session

/-- what each step answers on the tree before the C15 repair (`c17Cfg`) and after it (`repairedCfg`) -/
theorem c15_sibling_schedule :
    (getSession c17Cfg (run c17Cfg init (siblingPre.take 4)) 0 555 3 10).2 = .refused "ErrSessionsCapReached" ∧
    (closeLocked (run c17Cfg init (siblingPre.take 5)) 0 101).2 = some 1 ∧
    (getSession c17Cfg (run c17Cfg init siblingPre) 0 555 4 10).2 = .created 4 ∧
    (getSession c17Cfg (run c17Cfg (getSession c17Cfg (run c17Cfg init siblingPre) 0 555 4 10).1 [.refusedCleanup 0 555]) 0 555 5 10).2
      = .created 5 ∧
    (getSession repairedCfg (run repairedCfg (getSession repairedCfg (run repairedCfg init siblingPre) 0 555 4 10).1 [.refusedCleanup 0 555]) 0 555 5 10).2
      = .joined 4 := by decide

/-- WITNESS (explicit facts of the tree before the repair: the refused connection calls `CloseSession(own id)`):
the full statement fails — B and C present the same pair and get two sessions with two keys -/
theorem c15_refused_cleanup_witness : ¬ c15_same_session_full c17Cfg := by
  intro h
  have := h siblingPre [.refusedCleanup 0 555] 0 555 4 5 10 10 4 (by decide) (by decide)
  revert this
  decide

/-- the same schedule on an EMPTY record: a refused first connection (cap 0) calls `CloseSession(own id)`, which finds
`remaining == 0`; the admin raises the cap; sibling B presents the pair.  On the tree before the C15 repair this was a
second witness (the termination destroyed B's fresh session).  Since `CloseSession` retires the record in the section in
which it finds it empty (`Gen.Panel.closeSessionRetiresWhenEmpty`, /repo's "stale last-session decision" fix), B is told
the record is retired and looks the user up again — even with the old clean-up: -/
example :
    (getSession c17Cfg (run c17Cfg init
      [.put 7 { info2 with cap := 0 }, .getUser 7 false 10, .getSession 0 5 1 10, .refusedCleanup 0 5, .put 7 info2]) 0 5 2 10).2
      = .retired := by decide

/-- why the repaired helper retires the record in the SAME critical section in which it finds it empty: without that
(`cleanupRetires = false`) a refused first connection (cap 0) decides to terminate the empty record, the admin raises
the cap, a sibling creates its session in the still unretired record, the termination then closes it -/
theorem c15_cleanup_must_retire_witness : ¬ c15_same_session_full (orphanRepaired false false) := by
  intro h
  have := h [.put 7 { info2 with cap := 0 }, .getUser 7 false 10, .getSession 0 5 1 10, .refusedCleanup 0 5, .put 7 info2]
    [.retire 0, .closeAll 0, .deleteRec 0] 0 5 2 3 10 10 2 (by decide) (by decide)
  revert this
  decide

/-- non-vacuity of `c15_same_session_full repairedCfg`: the finding's schedule, followed by a second refused connection
on a cap-0 user whose clean-up terminates the empty record (licensed `retire`/`closeAll`/`deleteRec` in `mid`) -/
example :
    let pre := siblingPre ++ [.put 8 { info2 with cap := 0 }, .getUser 8 false 10, .getSession 1 9 6 10]
    let mid : List Ev := [.refusedCleanup 0 555, .refusedCleanup 1 9, .retire 1, .closeAll 1, .deleteRec 1, .getSession 0 102 7 10]
    attachedKey (getSession repairedCfg (run repairedCfg init pre) 0 555 4 10).2 = some 4 ∧
    Quant repairedCfg 0 555 (getSession repairedCfg (run repairedCfg init pre) 0 555 4 10).1 (licensed repairedCfg init [] pre) mid ∧
    licensed repairedCfg (getSession repairedCfg (run repairedCfg init pre) 0 555 4 10).1 [] mid = [1] ∧
    (run repairedCfg (getSession repairedCfg (run repairedCfg init pre) 0 555 4 10).1 mid).active = [(7, 0)] := by
  decide
/-- two different users never resolve to the same record: an `activeUsers` entry for `u` points to a record of `u` -/
theorem bound_uid (cfg : Cfg) (evs : List Ev) :
    ∀ (u rid : Nat), lookup (run cfg init evs).active u = some rid →
      ∃ r, (run cfg init evs).recs[rid]? = some r ∧ r.uid = u :=
  List.foldlRecOn (motive := fun s => ∀ (u rid : Nat), lookup s.active u = some rid → ∃ r, s.recs[rid]? = some r ∧ r.uid = u)
    evs (step cfg) (by intro u rid hl; simp [init, lookup] at hl) (fun s hs e _ => boundWf_step cfg s e hs)

/-- **C15 distinct**: different uids never share a record (hence never a session), and within a record a `joined`
answer for `sid` reads the entry of `sid` only (`joined_spec`): different session ids never share a session. -/
theorem c15_distinct_users (cfg : Cfg) (evs : List Ev) (u1 u2 rid : Nat)
    (h1 : lookup (run cfg init evs).active u1 = some rid) (h2 : lookup (run cfg init evs).active u2 = some rid) :
    u1 = u2 := by
  obtain ⟨r1, hr1, e1⟩ := bound_uid cfg evs u1 rid h1
  obtain ⟨r2, hr2, e2⟩ := bound_uid cfg evs u2 rid h2
  rw [hr1] at hr2; cases hr2
  rw [← e1, ← e2]

/-! ## 5. Exhausted or expired users cannot start a session (nor become active) -/

theorem c15_exhausted (cfg : Cfg) (s : St) (rid sid key : Nat) (now : Int) (r : Rec) (i : Info)
    (hr : s.recs[rid]? = some r) (hb : r.bypass = false) (hnew : lookup r.sessions sid = none)
    (hi : lookup s.store r.uid = some i)
    (hx : i.upCredit ≤ 0 ∨ i.downCredit ≤ 0 ∨ i.expiry < now) :
    (∃ w, (getSession cfg s rid sid key now).2 = .refused w ∨ (getSession cfg s rid sid key now).2 = .retired) ∧
    (getSession cfg s rid sid key now).1 = s := by
  have ha : ∃ w, authoriseNew s.store r.uid now r.sessions.length = some w := by
    cases hh : authoriseNew s.store r.uid now r.sessions.length with
    | some w => exact ⟨w, rfl⟩
    | none =>
      obtain ⟨i', hi', a, b, c, _⟩ := authoriseNew_none hh
      rw [hi] at hi'; cases hi'
      omega
  obtain ⟨w, hw⟩ := ha
  unfold getSession
  simp only [hr, hnew, hb, hw]
  split
  · exact ⟨⟨w, Or.inr rfl⟩, rfl⟩
  · exact ⟨⟨w, Or.inl rfl⟩, rfl⟩

/-- a user who is not in the database, or exhausted, or expired, does not become active -/
theorem c15_exhausted_inactive (s : St) (u : Nat) (now : Int) (hn : lookup s.active u = none)
    (hx : lookup s.store u = none ∨ ∃ i, lookup s.store u = some i ∧ (i.upCredit ≤ 0 ∨ i.downCredit ≤ 0 ∨ i.expiry < now)) :
    (∃ w, (getUser s u false now).2 = .err w) ∧ (getUser s u false now).1 = s := by
  have ha : ∃ w, authenticate s.store u now = some w := by
    unfold authenticate
    rcases hx with h | ⟨i, hi, h⟩
    · rw [h]; exact ⟨_, rfl⟩
    · rw [hi]
      simp only
      cases hh : firstFail (Gen.Panel.authenticateChecks i.upCredit i.downCredit i.expiry now) with
      | some w => exact ⟨w, rfl⟩
      | none => have := (gen_authenticate _ _ _ _).1 hh; omega
  obtain ⟨w, hw⟩ := ha
  unfold getUser
  simp only [hn, Bool.false_eq_true, if_false, hw]
  exact ⟨⟨w, by simp⟩, by simp⟩

example : (getSession pinnedCfg (run pinnedCfg init [.put 7 info2, .getUser 7 false 10, .put 7 { info2 with downCredit := 0 }]) 0 1 5 10).2
    = .refused "ErrNoDownCredit" := by decide

/-! ## 6. The `>`-for-`>=` mutant admits cap+1 sessions (explicit comparison, not `Gen`) -/
def looseChecks (upCredit downCredit expiryTime now numExisting sessionsCap : Int) : List (String × Bool) :=
  [("ErrNoUpCredit", decide (upCredit ≤ 0)), ("ErrNoDownCredit", decide (downCredit ≤ 0)),
   ("ErrUserExpired", decide (expiryTime < now)), ("ErrSessionsCapReached", decide (numExisting > sessionsCap))]
theorem loose_admits_cap_plus_one : firstFail (looseChecks 5 5 100 0 1 1) = none := by decide

end C15

#print axioms C15.c15_cap
#print axioms C15.c15_same_session
#print axioms C15.c15_same_session_core
#print axioms C15.c15_refused_cleanup_witness
#print axioms C15.c15_exhausted
