import CloakModel.Lemmas.PanelCore

/-! What each answer of `Panel.getSession` says about the state before and after. -/
namespace Panel

/-- `getSession`, answer by answer: a new session, an existing one, or nothing happens -/
theorem getSession_spec (cfg : Cfg) (s : St) (rid sid key : Nat) (now : Int) :
    (∃ r, s.recs[rid]? = some r ∧ lookup r.sessions sid = none ∧ (cfg.checksRetired = true → r.retired = false) ∧
      (r.bypass = false → authoriseNew s.store r.uid now r.sessions.length = none) ∧
      getSession cfg s rid sid key now =
        ({ s with recs := s.recs.set rid { r with sessions := (sid, key) :: r.sessions } }, .created key)) ∨
    (∃ r k, s.recs[rid]? = some r ∧ lookup r.sessions sid = some k ∧ (cfg.checksRetired = true → r.retired = false) ∧
      getSession cfg s rid sid key now = (s, .joined k)) ∨
    (∃ res, getSession cfg s rid sid key now = (s, res) ∧ ((∃ w, res = .refused w) ∨ res = .retired ∨ res = .noRec)) := by
  unfold getSession
  split
  · exact .inr (.inr ⟨_, rfl, .inr (.inr rfl)⟩)
  · rename_i r hr
    split
    · exact .inr (.inr ⟨_, rfl, .inr (.inl rfl)⟩)
    · rename_i hc
      have hnr : cfg.checksRetired = true → r.retired = false := fun h => by simpa [h] using hc
      split
      · rename_i k hl; exact .inr (.inl ⟨r, k, hr, hl, hnr, rfl⟩)
      · rename_i hl
        split
        · exact .inr (.inr ⟨_, rfl, .inl ⟨_, rfl⟩⟩)
        · rename_i ha; exact .inl ⟨r, hr, hl, hnr, fun hb => by simpa [hb] using ha, rfl⟩

theorem created_spec {cfg : Cfg} {s : St} {rid sid key : Nat} {now : Int} {k : Nat}
    (h : (getSession cfg s rid sid key now).2 = .created k) :
    ∃ r, s.recs[rid]? = some r ∧ lookup r.sessions sid = none ∧ k = key ∧
      (getSession cfg s rid sid key now).1 = { s with recs := s.recs.set rid { r with sessions := (sid, key) :: r.sessions } } ∧
      (cfg.checksRetired = true → r.retired = false) ∧
      (r.bypass = false → authoriseNew s.store r.uid now r.sessions.length = none) := by
  rcases getSession_spec cfg s rid sid key now with ⟨r, hr, hl, hnr, ha, he⟩ | ⟨r, k', _, _, _, he⟩ | ⟨res, he, hres⟩ <;>
    rw [he] at h ⊢
  · cases h; exact ⟨r, hr, hl, rfl, rfl, hnr, ha⟩
  · cases h
  · rcases hres with ⟨w, rfl⟩ | rfl | rfl <;> cases h

theorem joined_spec {cfg : Cfg} {s : St} {rid sid key : Nat} {now : Int} {k : Nat}
    (h : (getSession cfg s rid sid key now).2 = .joined k) :
    ∃ r, s.recs[rid]? = some r ∧ lookup r.sessions sid = some k ∧ (getSession cfg s rid sid key now).1 = s ∧
      (cfg.checksRetired = true → r.retired = false) := by
  rcases getSession_spec cfg s rid sid key now with ⟨r, _, _, _, _, he⟩ | ⟨r, k', hr, hl, hnr, he⟩ | ⟨res, he, hres⟩ <;>
    rw [he] at h ⊢
  · cases h
  · cases h; exact ⟨r, hr, hl, rfl, hnr⟩
  · rcases hres with ⟨w, rfl⟩ | rfl | rfl <;> cases h

/-- any other answer leaves the state unchanged -/
theorem other_spec {cfg : Cfg} {s : St} {rid sid key : Nat} {now : Int}
    (h : ∀ k, (getSession cfg s rid sid key now).2 ≠ .created k) :
    (getSession cfg s rid sid key now).1 = s := by
  rcases getSession_spec cfg s rid sid key now with ⟨r, _, _, _, _, he⟩ | ⟨r, k', _, _, _, he⟩ | ⟨res, he, _⟩ <;>
    rw [he] at h ⊢
  exact absurd rfl (h key)
/-! the clean-up of a refused connection -/

/-- pinned shape: it IS the locked part of `CloseSession(rid's record, sid)` -/
theorem refusedCleanup_names {cfg : Cfg} {s : St} {rid sid : Nat} (h : cfg.cleanupNamesSession = true) :
    (refusedCleanup cfg s rid sid).1 = (closeLocked s rid sid).1 := by
  unfold refusedCleanup
  rw [if_pos h]
  split <;> (rename_i heq; rw [heq])

/-- repaired shape, no such record -/
theorem refusedCleanup_noRec {cfg : Cfg} {s : St} {rid sid : Nat} (h : cfg.cleanupNamesSession = false)
    (hr : s.recs[rid]? = none) : refusedCleanup cfg s rid sid = (s, none) := by
  unfold refusedCleanup
  simp [h, hr]

/-- repaired shape: the only thing it may change is the `retired` flag of a record that is EMPTY at that moment -/
theorem refusedCleanup_rec {cfg : Cfg} {s : St} {rid sid : Nat} {r : Rec} (h : cfg.cleanupNamesSession = false)
    (hr : s.recs[rid]? = some r) :
    refusedCleanup cfg s rid sid =
      ({ s with recs := s.recs.set rid { r with retired := r.retired || (cfg.cleanupRetires && r.sessions.isEmpty) } },
       some r.sessions.isEmpty) := by
  unfold refusedCleanup
  simp [h, hr]

/-- … so a record that has a session is left exactly as it was, and no termination is started -/
theorem refusedCleanup_nonempty {cfg : Cfg} {s : St} {rid sid : Nat} {r : Rec} (h : cfg.cleanupNamesSession = false)
    (hr : s.recs[rid]? = some r) (hne : r.sessions ≠ []) :
    refusedCleanup cfg s rid sid = (s, some false) := by
  rw [refusedCleanup_rec h hr]
  have he : r.sessions.isEmpty = false := by
    cases hs : r.sessions with
    | nil => exact absurd hs hne
    | cons a t => rfl
  have hrec : ({ r with retired := r.retired || (cfg.cleanupRetires && r.sessions.isEmpty) } : Rec) = r := by
    rw [he]; simp
  rw [hrec, he]
  have : s.recs.set rid r = s.recs := by
    apply List.ext_getElem?
    intro j
    by_cases hj : rid = j
    · subst hj; rw [getElem?_set_eq' _ _ _ _ hr, hr]
    · rw [List.getElem?_set_ne hj]
  rw [this]

/-- the clean-up announces a termination (`some true`) only for a record it found empty; with `cleanupRetires` that
record is retired by the same step -/
theorem refusedCleanup_terminate_spec {cfg : Cfg} {s : St} {rid sid : Nat} (h : cfg.cleanupNamesSession = false)
    (ht : (refusedCleanup cfg s rid sid).2 = some true) :
    ∃ r, s.recs[rid]? = some r ∧ r.sessions = [] ∧
      (refusedCleanup cfg s rid sid).1.recs = s.recs.set rid { r with retired := r.retired || cfg.cleanupRetires } := by
  cases hr : s.recs[rid]? with
  | none => rw [refusedCleanup_noRec h hr] at ht; cases ht
  | some r =>
    rw [refusedCleanup_rec h hr] at ht ⊢
    simp only [Option.some.injEq] at ht
    exact ⟨r, rfl, List.isEmpty_iff.1 ht, by simp [ht]⟩

end Panel
