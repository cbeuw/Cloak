/-! The one tactic abbreviation of the development, for the bridging lemmas `gen_*` that say what a term regenerated
from the Go source (`Gen/*.lean`) means.  Such a term is a Boolean combination of integer comparisons, or an integer
expression, in whatever shape the Go expression was written (`&&`, `||`, `!`, swapped operands, `a - b > 0` ...); the
lemma states its meaning (`t … = true ↔ arithmetic condition`, `t … = value`).  After unfolding `t` the goal is linear
arithmetic, directly or once the Boolean connectives have been turned into propositional ones.  A semantically
equivalent rewrite of the Go expression therefore keeps the bridging lemma, and everything behind it, intact. -/

macro "gen_bool" : tactic => `(tactic|
  (first
    | omega
    | (simp only [Bool.and_eq_true, Bool.or_eq_true, Bool.not_eq_true', decide_eq_true_eq, decide_eq_false_iff_not] <;> omega)))
