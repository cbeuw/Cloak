import CloakModel.Model.DgPipe
import CloakModel.Lemmas.DgDemux
import CloakModel.Gen.Deliver
import CloakModel.Lemmas.GenBridge

/-! # C14 — Datagram (UDP) mode preserves message boundaries and stream isolation

(1) bridging lemmas: the *extracted* branch conditions of `datagramBufferedPipe.Read/Write` and of
`Stream.Write` mean what the proofs need; structural facts (`gen_structure`);
(2) the executable pipe model is a FIFO of whole datagrams (`Abs`);
(3) the property theorems: `c14_inv`, `c14_fifo_whole`, `c14_short`, `c14_drain`, `c14_oversize`,
`c14_isolation` (+ `sess_sim`: the executable stream table the driver runs is the table of the theorem). -/
set_option linter.unusedSimpArgs false
set_option linter.unusedVariables false

namespace C14
open DG

/-! ## 1. Extracted conditions mean what the proof needs -/

theorem gen_eof (c : Bool) (n : Nat) : Gen.Datagram.dgEOF c (n : Int) = true ↔ (c = true ∧ n = 0) := by
  unfold Gen.Datagram.dgEOF
  simp only [Bool.and_eq_true, decide_eq_true_eq, Int.natCast_eq_zero]

theorem gen_has (n : Nat) : Gen.Datagram.dgHasData (n : Int) = true ↔ 0 < n := by
  unfold Gen.Datagram.dgHasData
  gen_bool

theorem gen_short (cap l : Nat) : Gen.Datagram.dgShort (cap : Int) (l : Int) = true ↔ cap < l := by
  unfold Gen.Datagram.dgShort
  gen_bool

theorem gen_closing (c : Nat) : Gen.Datagram.dgClosing (c : Int) = true ↔ c ≠ 0 := by
  unfold Gen.Datagram.dgClosing
  gen_bool

theorem gen_fits (len n : Nat) (max : Int) : Gen.Datagram.writeFits (len : Int) (n : Int) max = true ↔ (len : Int) - n ≤ max := by
  unfold Gen.Datagram.writeFits
  gen_bool

theorem gen_loop (len n : Nat) : Gen.Datagram.writeLoop (len : Int) (n : Int) = true ↔ n < len := by
  unfold Gen.Datagram.writeLoop
  gen_bool

/-- the per-frame maximum is the on-wire limit minus header (14) and the largest padding+tag (255);
for the limit Cloak's client and server configure (`appDataMaxLength`) that is 16132 -/
theorem gen_max (limit : Int) : Gen.Datagram.maxStreamUnitWrite limit = limit - 269 := by
  unfold Gen.Datagram.maxStreamUnitWrite; omega

theorem gen_max_cloak : DG.maxUnit Gen.Datagram.appDataMaxLengthServer = 16132 ∧
    DG.maxUnit Gen.Datagram.appDataMaxLengthClient = 16132 ∧ DG.maxUnit Gen.Datagram.defaultMaxOnWireSize = 16371 := by
  decide

/-- structural facts of the Go source the model relies on (each is a pattern the extractor matched on the
current tree): order of the short-buffer test and the pop; EOF test first; write: closed test first, the
closing branch stores nothing, length and bytes appended together under the one lock; `Stream.Write`
refuses an oversize datagram before any send and sends a fitting one as exactly one frame; `makeStream`
picks the datagram pipe iff `Unordered`; frames are routed by `frame.StreamID` to that stream's own pipe. -/
theorem gen_structure :
    Gen.Datagram.dgReadTestBeforePop = true ∧ Gen.Datagram.dgReadEOFFirst = true ∧
    Gen.Datagram.dgReadReturnsHeadLen = true ∧ Gen.Datagram.dgReadLocked = true ∧
    Gen.Datagram.dgWriteClosedFirst = true ∧ Gen.Datagram.dgWriteClosingBranch = true ∧
    Gen.Datagram.dgWriteAppendsLenAndBytes = true ∧ Gen.Datagram.dgWriteLocked = true ∧
    Gen.Datagram.dgCloseSets = true ∧ Gen.Datagram.closingNothing = 0 ∧
    Gen.Datagram.unorderedRefusesBeforeSend = true ∧ Gen.Datagram.writeOneFramePerDatagram = true ∧
    Gen.Datagram.makeStreamPicksByUnordered = true ∧ Gen.Datagram.recvDemuxByStreamID = true ∧
    Gen.Datagram.recvFrameWritesOwnPipe = true ∧ Gen.Datagram.streamReadReadsOwnPipe = true := by and_intros <;> rfl

/-! ## 2. The executable pipe is a FIFO of whole datagrams -/

/-- `write` in mathematical form -/
theorem write_eq (p : Pipe) (c : Nat) (d : Bytes) :
    DG.write p c d = if p.closed = true then (p, .refused)
      else if c ≠ 0 then ({ p with closed := true }, .closedNow)
      else ({ p with lens := p.lens ++ [d.length], buf := p.buf ++ d }, .ok) := by
  unfold DG.write
  simp only [gen_closing]

/-- `read` in mathematical form -/
theorem read_eq (p : Pipe) (cap : Nat) :
    DG.read p cap = match p.lens with
      | [] => if p.closed = true then (p, .eof) else (p, .block)
      | l :: ls => if cap < l then (p, .short)
                   else ({ p with lens := ls, buf := p.buf.drop l }, .data (p.buf.take l)) := by
  unfold DG.read
  simp only [gen_eof, gen_has, gen_short]
  cases p.lens with
  | nil => by_cases hc : p.closed = true <;> simp [hc]
  | cons l ls => simp

/-- `Read` parks exactly on an open, empty pipe -/
theorem read_block (p : Pipe) (cap : Nat) : (DG.read p cap).2 = .block ↔ p.closed = false ∧ p.lens = [] := by
  rw [read_eq]
  cases p.lens with
  | nil => cases p.closed <;> simp
  | cons l ls => simp only; split <;> simp

/-- abstract view: the queue of whole datagrams -/
def Abs (p : Pipe) (q : List Bytes) : Prop :=
  p.lens = q.map List.length ∧ p.buf = q.flatten

theorem abs_empty : Abs Pipe.empty [] := ⟨rfl, rfl⟩

theorem write_abs (p : Pipe) (q : List Bytes) (d : Bytes) (h : Abs p q) (hc : p.closed = false) :
    (DG.write p 0 d).2 = .ok ∧ Abs (DG.write p 0 d).1 (q ++ [d]) ∧ (DG.write p 0 d).1.closed = false := by
  rw [write_eq]; simp [hc, Abs, h.1, h.2]

theorem write_closing (p : Pipe) (q : List Bytes) (c : Nat) (d : Bytes) (h : Abs p q) (hc : p.closed = false) (h0 : c ≠ 0) :
    (DG.write p c d).2 = .closedNow ∧ Abs (DG.write p c d).1 q ∧ (DG.write p c d).1.closed = true := by
  rw [write_eq]; simp [hc, h0, Abs, h.1, h.2]

theorem write_closed (p : Pipe) (c : Nat) (d : Bytes) (hc : p.closed = true) :
    DG.write p c d = (p, .refused) := by
  rw [write_eq]; simp [hc]

/-- a read returns exactly the oldest datagram, whole — or leaves everything untouched -/
theorem read_abs (p : Pipe) (q : List Bytes) (cap : Nat) (h : Abs p q) :
    match q with
    | [] => DG.read p cap = (p, if p.closed = true then .eof else .block)
    | d :: ds =>
      if cap < d.length then DG.read p cap = (p, .short)
      else (DG.read p cap).2 = .data d ∧ Abs (DG.read p cap).1 ds ∧ (DG.read p cap).1.closed = p.closed := by
  rw [read_eq]
  cases q with
  | nil =>
    have : p.lens = [] := by simpa using h.1
    simp only [this]
    split <;> simp_all
  | cons d ds =>
    have hl : p.lens = d.length :: ds.map List.length := by simpa using h.1
    have hb : p.buf = d ++ ds.flatten := by simpa using h.2
    simp only [hl]
    split
    · rfl
    · simp [Abs, hb]

/-! ## 3. Property theorems -/

/-- operations on one datagram pipe: a frame arrives (`closing` flag, payload), the application reads
with a buffer of `cap` bytes, or the stream is closed locally -/
inductive Op | w (closing : Nat) (d : Bytes) | r (cap : Nat) | c

/-- what an observer of one stream sees: the pipe, every `Read` result so far, and the datagrams
*accepted* by a write (`Write` returned `(false, nil)`) so far, in order -/
structure Run where
  p : Pipe
  outs : List ROut
  acc : List Bytes

def Run.init : Run := ⟨Pipe.empty, [], []⟩

def step (s : Run) : Op → Run
  | .w c d => ⟨(DG.write s.p c d).1, s.outs, if (DG.write s.p c d).2 = .ok then s.acc ++ [d] else s.acc⟩
  | .r cap => ⟨(DG.read s.p cap).1, s.outs ++ [(DG.read s.p cap).2], s.acc⟩
  | .c => ⟨close s.p, s.outs, s.acc⟩

def run (ops : List Op) : Run := ops.foldl step Run.init

/-- the datagrams returned by successful reads, in order -/
def dataOf : List ROut → List Bytes
  | [] => []
  | .data d :: r => d :: dataOf r
  | _ :: r => dataOf r

theorem dataOf_append (a b : List ROut) : dataOf (a ++ b) = dataOf a ++ dataOf b := by
  induction a with
  | nil => rfl
  | cons x r ih => cases x <;> simp [dataOf, ih]

/-- the FIFO invariant: some queue `q` of whole datagrams is what the pipe holds, and
everything read so far followed by `q` is everything accepted so far -/
def Inv (s : Run) : Prop := ∃ q, Abs s.p q ∧ dataOf s.outs ++ q = s.acc

theorem inv_step (s : Run) (op : Op) (h : Inv s) : Inv (step s op) := by
  obtain ⟨q, ha, hq⟩ := h
  cases op with
  | w c d =>
    cases hc : s.p.closed with
    | true =>
      refine ⟨q, ?_, ?_⟩ <;> simp [step, write_closed s.p c d hc, ha, hq]
    | false =>
      by_cases h0 : c = 0
      · subst h0
        obtain ⟨h1, h2, _⟩ := write_abs s.p q d ha hc
        refine ⟨q ++ [d], h2, ?_⟩
        simp [step, h1, ← hq]
      · obtain ⟨h1, h2, _⟩ := write_closing s.p q c d ha hc h0
        refine ⟨q, h2, ?_⟩
        simp [step, h1, hq]
  | r cap =>
    have hr := read_abs s.p q cap ha
    cases q with
    | nil =>
      simp only at hr
      refine ⟨[], ?_, ?_⟩
      · simp [step, hr, ha]
      · simp only [step, hr, dataOf_append]
        split <;> simpa [dataOf] using hq
    | cons d ds =>
      simp only at hr
      by_cases hcap : cap < d.length
      · rw [if_pos hcap] at hr
        refine ⟨d :: ds, ?_, ?_⟩
        · simp [step, hr, ha]
        · simp only [step, hr, dataOf_append]; simpa [dataOf] using hq
      · rw [if_neg hcap] at hr
        obtain ⟨h1, h2, _⟩ := hr
        refine ⟨ds, h2, ?_⟩
        simp only [step, h1, dataOf_append, dataOf]
        simpa using hq
  | c =>
    refine ⟨q, ?_, hq⟩
    exact ⟨ha.1, ha.2⟩

theorem inv_run (ops : List Op) (s : Run) (h : Inv s) : Inv (ops.foldl step s) :=
  List.foldlRecOn ops _ h (fun s h op _ => inv_step s op h)

/-- **C14 (whole messages, FIFO, at most once).** After ANY operation sequence: the datagrams returned
by the successful reads so far (in order), followed by the datagrams still queued, are exactly the
datagrams the pipe accepted, in arrival order — each one whole and with identical content; the pipe's
contents are exactly those queued datagrams laid end to end.  So nothing is merged, split, truncated,
duplicated, reordered within the stream, or consumed by a short read. -/
theorem c14_fifo_whole (ops : List Op) :
    ∃ q : List Bytes, dataOf (run ops).outs ++ q = (run ops).acc ∧
      (run ops).p.lens = q.map List.length ∧ (run ops).p.buf = q.flatten := by
  obtain ⟨q, ha, hq⟩ := inv_run ops Run.init ⟨[], abs_empty, rfl⟩
  exact ⟨q, hq, ha.1, ha.2⟩

/-- **C14 (bookkeeping invariant).** In every reachable state of the pipe — after ANY sequence of
arriving frames (data or closing), reads with any buffer sizes (short ones included) and a local close —
the byte buffer holds exactly as many bytes as the length queue announces. -/
theorem c14_inv (ops : List Op) : (run ops).p.buf.length = (run ops).p.lens.sum := by
  obtain ⟨q, _, hl, hb⟩ := c14_fifo_whole ops
  rw [hl, hb, List.length_flatten]

/-- **C14 (short read is non-destructive).** If the next datagram is `d` and the buffer is too small, the
read reports `ErrShortBuffer` and the state is *unchanged*; consequently any later read with an adequate
buffer returns `d` intact. -/
theorem c14_short (p : Pipe) (d : Bytes) (ds : List Bytes) (h : Abs p (d :: ds)) (cap : Nat) (hcap : cap < d.length) :
    DG.read p cap = (p, .short) ∧
    ∀ cap', d.length ≤ cap' → (DG.read (DG.read p cap).1 cap').2 = .data d ∧ Abs (DG.read (DG.read p cap).1 cap').1 ds := by
  have h1 := read_abs p (d :: ds) cap h
  simp only [hcap, if_true] at h1
  refine ⟨h1, ?_⟩
  intro cap' hc'
  rw [h1]
  have h2 := read_abs p (d :: ds) cap' h
  simp only [Nat.not_lt.2 hc', if_false] at h2
  exact ⟨h2.1, h2.2.1⟩

/-! ### the same clause at the `Stream.Read` level: the empty buffer

`Stream.Read` answers an empty buffer `(0, nil)` before it asks the pipe (`Gen.Datagram.streamReadEmptyBufIsNoop`, the
`io.Reader` convention). With a datagram pending, a 0-byte buffer is "a read buffer too small for the next datagram",
and no error is reported: the clause at full strength is false at exactly that point (`c14_stream_short_witness`; known
finding, replayed by ./check C14). Nothing is consumed or truncated there either; for every non-empty buffer the stream's
read IS the pipe's read, and `c14_short` applies (`c14_stream_short_partial`). -/

/-- the source has the shortcut -/
theorem gen_stream_read_empty : Gen.Datagram.streamReadEmptyBufIsNoop = true := rfl

/-- the clause for `Stream.Read`, at full strength: EVERY buffer smaller than the next datagram gets the error and
leaves the stream as it was -/
def c14_stream_short_full : Prop :=
  ∀ (s : Sess) (sid : Nat) (p : Pipe) (d : Bytes) (ds : List Bytes) (cap : Nat),
    s.get sid = some p → Abs p (d :: ds) → cap < d.length → (s.sread sid cap).2 = .r .short

theorem sread_pos (s : Sess) (sid cap : Nat) (h : 0 < cap) : s.sread sid cap = s.read sid cap := by
  unfold Sess.sread
  have : (cap == 0) = false := by simp; omega
  simp [this]

/-- **C14 (short read at the stream, non-empty buffers).** The error is reported and the stream's pipe is put back as it was -/
theorem c14_stream_short_partial (s : Sess) (sid : Nat) (p : Pipe) (d : Bytes) (ds : List Bytes) (cap : Nat)
    (hs : s.get sid = some p) (h : Abs p (d :: ds)) (hcap : cap < d.length) (hpos : 0 < cap) :
    s.sread sid cap = (s.set sid p, .r .short) := by
  rw [sread_pos s sid cap hpos]
  have h1 := (c14_short p d ds h cap hcap).1
  simp [Sess.read, hs, h1]

/-- the empty buffer: a 1-byte datagram pending, `Stream.Read` with a 0-byte buffer reports no error (and consumes nothing) -/
theorem c14_stream_short_witness : ¬ c14_stream_short_full := by
  intro h
  have hg := gen_stream_read_empty
  have := h [(1, ⟨[1], [7], false⟩)] 1 ⟨[1], [7], false⟩ [7] [] 0 (by decide) ⟨rfl, rfl⟩ (by decide)
  revert this
  decide

/-- ... and the datagram is still there: the next read with a fitting buffer returns it whole -/
theorem c14_stream_zero_keeps (s : Sess) (sid : Nat) : (s.sread sid 0).1 = s ∨ (s.sread sid 0) = s.read sid 0 := by
  unfold Sess.sread
  split
  · split <;> exact Or.inl rfl
  · exact Or.inr rfl

/-- reading with adequate buffers drains the queue: exactly the queued datagrams, each once -/
def drain (p : Pipe) : List Nat → Pipe × List ROut
  | [] => (p, [])
  | cap :: r => ((drain (DG.read p cap).1 r).1, (DG.read p cap).2 :: (drain (DG.read p cap).1 r).2)

/-- **C14 (exactly once while open).** From any state whose queue is `q`, `|q|` reads whose buffers are
large enough return exactly `q` — every accepted datagram is delivered, once — and leave the pipe empty. -/
theorem c14_drain : ∀ (q : List Bytes) (p : Pipe) (caps : List Nat), Abs p q → caps.length = q.length →
    (∀ x ∈ q.zip caps, x.1.length ≤ x.2) →
    (drain p caps).2 = q.map ROut.data ∧ Abs (drain p caps).1 [] := by
  intro q
  induction q with
  | nil =>
    intro p caps h hl _
    have : caps = [] := by cases caps with | nil => rfl | cons _ _ => simp at hl
    subst this; exact ⟨rfl, h⟩
  | cons d ds ih =>
    intro p caps h hl hcap
    cases caps with
    | nil => simp at hl
    | cons cap rest =>
      have h0 : d.length ≤ cap := hcap (d, cap) (by simp)
      have hr := read_abs p (d :: ds) cap h
      simp only [Nat.not_lt.2 h0, if_false] at hr
      obtain ⟨h1, h2, _⟩ := hr
      have := ih (DG.read p cap).1 rest h2 (by simpa using hl)
        (fun x hx => hcap x (by simp [hx]))
      simp only [drain, h1, List.map_cons]
      exact ⟨by rw [this.1], this.2⟩

/-- one iteration of the `Stream.Write` loop, conditions in mathematical form -/
theorem swriteLoop_succ (u : Bool) (max : Int) (inp : Bytes) (fuel n : Nat) (sent : List Bytes) :
    swriteLoop u max inp (fuel + 1) n sent =
      if n < inp.length then
        if (inp.length : Int) - n ≤ max then swriteLoop u max inp fuel inp.length (sent ++ [inp.drop n])
        else if u = true then (sent, .errShortBuffer)
        else swriteLoop u max inp fuel (n + max.toNat) (sent ++ [(inp.drop n).take max.toNat])
      else (sent, .ok) := by
  rw [swriteLoop]
  simp only [gen_loop, gen_fits]

/-- `Stream.Write` on an unordered stream: a non-empty datagram goes out as one frame whose payload it is, or not at all -/
theorem swrite_unordered (max : Int) (inp : Bytes) (h : 0 < inp.length) :
    swrite true max inp = if (inp.length : Int) ≤ max then ([inp], .ok) else ([], .errShortBuffer) := by
  rw [swrite, swriteLoop_succ, if_pos h]
  simp only [Int.natCast_zero, Int.sub_zero, if_true]
  split
  · cases hl : inp.length with
    | zero => omega
    | succ k => rw [swriteLoop_succ, if_neg (by omega)]; rfl
  · rfl

/-- **C14 (oversize refused, fitting sent as one frame).** In unordered mode `Stream.Write` of a datagram
longer than the per-frame maximum emits no frame and reports `io.ErrShortBuffer`; a non-empty datagram
that fits is emitted as exactly one frame whose payload is the datagram. -/
theorem c14_oversize (max : Int) (inp : Bytes) :
    ((inp.length : Int) > max → 0 < inp.length → swrite true max inp = ([], .errShortBuffer)) ∧
    (0 < inp.length → (inp.length : Int) ≤ max → swrite true max inp = ([inp], .ok)) :=
  ⟨fun hgt hpos => by rw [swrite_unordered max inp hpos, if_neg (by omega)],
   fun hpos hle => by rw [swrite_unordered max inp hpos, if_pos hle]⟩

/-- with Cloak's configured limit the boundary is 16132 / 16133 bytes -/
theorem c14_oversize_cloak (inp : Bytes) :
    (inp.length = 16133 → swrite true (DG.maxUnit Gen.Datagram.appDataMaxLengthServer) inp = ([], .errShortBuffer)) ∧
    (inp.length = 16132 → swrite true (DG.maxUnit Gen.Datagram.appDataMaxLengthServer) inp = ([inp], .ok)) := by
  rw [gen_max_cloak.1]
  exact ⟨fun h => (c14_oversize 16132 inp).1 (by omega) (by omega), fun h => (c14_oversize 16132 inp).2 (by omega) (by omega)⟩

/-! ### Stream isolation -/

abbrev GEv := DgDemux.GEv Op

/-- the receiving session as a table of per-stream observers; a delivered frame creates the stream,
an application read or local close does not -/
def gstep : (Nat → Option Run) → GEv → Nat → Option Run := DgDemux.gstep step Run.init
def lstep : Option Run → GEv → Option Run := DgDemux.lstep step Run.init

/-- a per-stream run that starts with no stream is, once created, a plain single-stream run -/
theorem lrun_inv (evs : List GEv) (s : Run) (h : evs.foldl lstep none = some s) : Inv s :=
  DgDemux.lrun_ind step Run.init (fun _ s => Inv s) (fun _ e _ _ => inv_step _ e.op ⟨[], abs_empty, rfl⟩)
    (fun _ e s h => inv_step s e.op h) evs s h

/-- datagrams accepted by a per-stream run are payloads of frames addressed to it, in order -/
def payloads : List GEv → List Bytes
  | [] => []
  | e :: r => match e.op with
    | .w _ d => d :: payloads r
    | _ => payloads r

theorem payloads_append (a b : List GEv) : payloads (a ++ b) = payloads a ++ payloads b := by
  induction a with
  | nil => rfl
  | cons e r ih => simp only [List.cons_append, payloads]; cases e.op <;> simp [ih]

theorem step_acc_sub (s : Run) (op : Op) :
    (step s op).acc = s.acc ∨ ∃ c d, op = .w c d ∧ (step s op).acc = s.acc ++ [d] := by
  cases op with
  | w c d =>
    by_cases h : (DG.write s.p c d).2 = .ok
    · exact Or.inr ⟨c, d, rfl, by simp [step, h]⟩
    · exact Or.inl (by simp [step, h])
  | r cap => exact Or.inl rfl
  | c => exact Or.inl rfl

theorem lrun_acc (evs : List GEv) (s : Run) (h : evs.foldl lstep none = some s) : s.acc.Sublist (payloads evs) := by
  have base : ∀ (s0 : Run) (pre : List GEv) (e : GEv), s0.acc.Sublist (payloads pre) →
      (step s0 e.op).acc.Sublist (payloads (pre ++ [e])) := by
    intro s0 pre e h0
    rw [payloads_append]
    rcases step_acc_sub s0 e.op with h1 | ⟨c, d, hop, h1⟩ <;> rw [h1]
    · exact h0.trans (List.sublist_append_left _ _)
    · simp only [payloads, hop]; exact h0.append (.refl _)
  exact DgDemux.lrun_ind step Run.init (fun evs s => s.acc.Sublist (payloads evs))
    (fun pre e _ _ => base Run.init pre e (List.nil_sublist _)) (fun evs e s h => base s evs e h) evs s h

/-- **C14 (stream isolation).** After ANY global interleaving of frame deliveries, reads and local
closes on any number of streams, what stream `sid` holds and has returned is exactly what a single
stream fed with only the events addressed to `sid` would hold and have returned (demux lemma); hence
(FIFO invariant of that run) everything it returned followed by what it still queues is what it
accepted, and what it accepted is a subsequence — in order — of the payloads of the frames addressed
to `sid`.  No datagram of another stream can appear, whole or in part. -/
theorem c14_isolation (evs : List GEv) (sid : Nat) :
    (evs.foldl gstep (fun _ => none)) sid = (DgDemux.proj sid evs).foldl lstep none ∧
    ∀ s, (evs.foldl gstep (fun _ => none)) sid = some s →
      (∃ q, dataOf s.outs ++ q = s.acc ∧ s.p.lens = q.map List.length ∧ s.p.buf = q.flatten) ∧
      s.acc.Sublist (payloads (DgDemux.proj sid evs)) := by
  have hiso := DgDemux.isolation step Run.init sid evs (fun _ => none)
  refine ⟨hiso, ?_⟩
  intro s hs
  have hs' : (DgDemux.proj sid evs).foldl lstep none = some s := by
    have : (evs.foldl gstep (fun _ => none)) sid = (DgDemux.proj sid evs).foldl lstep none := hiso
    rw [← this]; exact hs
  constructor
  · obtain ⟨q, ha, hq⟩ := lrun_inv (DgDemux.proj sid evs) s hs'
    exact ⟨q, hq, ha.1, ha.2⟩
  · exact lrun_acc (DgDemux.proj sid evs) s hs'

/-! ### non-vacuity -/

/-- two datagrams, a too-small read in between, a closing frame, reads to the end: the script satisfies nothing but
"any op list", and the model really returns `short, [1,2,3], [4], eof` -/
example :
    let ops := [Op.w 0 [1, 2, 3], .w 0 [4], .r 2, .r 3, .w 1 [9], .w 0 [7], .r 5, .r 1]
    (run ops).outs = [.short, .data [1, 2, 3], .data [4], .eof] ∧ (run ops).acc = [[1, 2, 3], [4]] := by
  decide

/-- `c14_short`'s hypotheses are satisfiable: a pipe holding `[1,2,3]` then `[4]`, read with a 2-byte buffer -/
example : Abs ⟨[3, 1], [1, 2, 3, 4], false⟩ ([1, 2, 3] :: [[4]]) ∧ (2 : Nat) < ([1, 2, 3] : Bytes).length := by
  refine ⟨⟨rfl, rfl⟩, by decide⟩

/-- `c14_oversize` at a small maximum -/
example : swrite true 3 [1, 2, 3, 4] = ([], .errShortBuffer) ∧ swrite true 3 [1, 2, 3] = ([[1, 2, 3]], .ok) ∧
    swrite false 3 [1, 2, 3, 4] = ([[1, 2, 3], [4]], .ok) := by decide

/-! ### exactly once, per stream, while the stream stays open -/

/-- an event that keeps its stream open: a data frame (which may create the stream) or an application read -/
def OpenEv (e : GEv) : Prop :=
  match e.op with
  | .w c _ => c = 0 ∧ e.creates = true
  | .r _ => e.creates = false
  | .c => False

theorem step_open_w (s : Run) (d : Bytes) (h : s.p.closed = false) :
    (step s (.w 0 d)).p.closed = false ∧ (step s (.w 0 d)).acc = s.acc ++ [d] := by
  simp [step, write_eq, h]

theorem step_open_r (s : Run) (cap : Nat) (h : s.p.closed = false) :
    (step s (.r cap)).p.closed = false ∧ (step s (.r cap)).acc = s.acc := by
  refine ⟨?_, rfl⟩
  simp only [step, read_eq]
  cases hl : s.p.lens with
  | nil => simp [h]
  | cons l ls => simp only; split <;> simp [h]

/-- a stream that only open events were addressed to is open and has accepted every payload addressed to it: those that came
before it existed were reads, which carry none -/
theorem lrun_open (evs : List GEv) (hev : ∀ e ∈ evs, OpenEv e) (s : Run) (h : evs.foldl lstep none = some s) :
    s.p.closed = false ∧ s.acc = payloads evs := by
  have base : ∀ (s0 : Run) (pre : List GEv) (e : GEv), OpenEv e → s0.p.closed = false ∧ s0.acc = payloads pre →
      (step s0 e.op).p.closed = false ∧ (step s0 e.op).acc = payloads (pre ++ [e]) := by
    intro s0 pre e he ⟨h1, h2⟩
    rw [payloads_append]
    unfold OpenEv at he
    cases hop : e.op with
    | w c d =>
      rw [hop] at he; obtain ⟨rfl, _⟩ := he
      simpa [payloads, hop, h2] using step_open_w s0 d h1
    | r cap => simpa [payloads, hop, h2] using step_open_r s0 cap h1
    | c => rw [hop] at he; exact he.elim
  have hpre : ∀ pre : List GEv, (∀ e ∈ pre, OpenEv e) → (∀ e ∈ pre, e.creates = false) → payloads pre = [] := by
    intro pre
    induction pre with
    | nil => intros; rfl
    | cons e r ih =>
      intro ho hc
      have he := ho e (by simp)
      unfold OpenEv at he
      simp only [payloads]
      cases hop : e.op with
      | w c d => rw [hop, hc e (by simp)] at he; cases he.2
      | r cap => exact ih (fun x hx => ho x (by simp [hx])) (fun x hx => hc x (by simp [hx]))
      | c => rw [hop] at he; exact he.elim
  refine DgDemux.lrun_ind step Run.init (fun evs s => (∀ e ∈ evs, OpenEv e) → s.p.closed = false ∧ s.acc = payloads evs)
    (fun pre e hp _ ho => ?_) (fun evs e s ih ho => ?_) evs s h hev
  · exact base Run.init pre e (ho e (by simp)) ⟨rfl, (hpre pre (fun x hx => ho x (by simp [hx])) hp).symm⟩
  · exact base s evs e (ho e (by simp)) (ih (fun x hx => ho x (by simp [hx])))

/-- **C14 (exactly once, whole, per stream, any interleaving).** Let frames and reads for any number of streams be
interleaved in ANY way (any arrival order across connections, any scheduling of the readers).  If the events
addressed to stream `sid` are data frames and reads only (the stream stays open), then at the end the datagrams its
reads returned (in order), followed by the datagrams still queued in its pipe, are EXACTLY the payloads of the
frames addressed to `sid`, in their arrival order: each delivered datagram comes out once, whole, unmixed — and
reads with adequate buffers (`c14_drain`) fetch the queued rest. -/
theorem c14_exactly_once (evs : List GEv) (sid : Nat) (hopen : ∀ e ∈ DgDemux.proj sid evs, OpenEv e) :
    ∀ s, (evs.foldl gstep (fun _ => none)) sid = some s →
      s.p.closed = false ∧
      ∃ q, dataOf s.outs ++ q = payloads (DgDemux.proj sid evs) ∧ s.p.lens = q.map List.length ∧ s.p.buf = q.flatten := by
  intro s hs
  obtain ⟨hiso, hrest⟩ := c14_isolation evs sid
  obtain ⟨⟨q, hq, hl, hb⟩, _⟩ := hrest s hs
  have hs' : (DgDemux.proj sid evs).foldl lstep none = some s := by rw [← hiso]; exact hs
  have := lrun_open (DgDemux.proj sid evs) hopen s hs'
  exact ⟨this.1, q, by rw [hq, this.2], hl, hb⟩

/-- non-vacuity of `c14_isolation` / `c14_exactly_once`: frames of streams 1 and 2 interleaved, a short read on 1 -/
example :
    let evs : List GEv := [⟨1, .w 0 [1, 1], true⟩, ⟨2, .w 0 [2], true⟩, ⟨1, .r 1, false⟩, ⟨2, .w 0 [2, 2, 2], true⟩,
                           ⟨1, .w 0 [1], true⟩, ⟨2, .r 9, false⟩, ⟨1, .r 2, false⟩]
    (∀ e ∈ DgDemux.proj 1 evs, OpenEv e) ∧
    ((evs.foldl gstep (fun _ => none)) 1).map (fun s => (s.outs, s.p.lens)) = some ([.short, .data [1, 1]], [1]) ∧
    ((evs.foldl gstep (fun _ => none)) 2).map (fun s => (s.outs, s.p.lens)) = some ([.data [2]], [3]) := by
  refine ⟨?_, by decide, by decide⟩
  intro e he
  simp [DgDemux.proj] at he
  rcases he with h | h | h | h <;> subst h <;> simp [OpenEv]

/-! ### The executable stream table (what the driver runs) is the table of the theorem -/

theorem get_set (s : Sess) (sid sid' : Nat) (p : Pipe) :
    (s.set sid p).get sid' = if sid' = sid then some p else s.get sid' := by
  induction s with
  | nil =>
    simp only [Sess.set, Sess.get]
    by_cases h : sid = sid'
    · simp [h]
    · have : ¬ sid' = sid := fun hh => h hh.symm
      simp [h, this]
  | cons e r ih =>
    obtain ⟨k, q⟩ := e
    simp only [Sess.set]
    by_cases hk : k = sid
    · subst hk
      simp only [if_true, Sess.get]
      by_cases h : k = sid'
      · simp [h]
      · have : ¬ sid' = k := fun hh => h hh.symm
        simp [h, this]
    · simp only [hk, if_false, Sess.get]
      by_cases h : k = sid'
      · have : ¬ sid' = sid := fun hh => hk (h.trans hh)
        simp [h, this]
      · simp [h, ih]

/-- events as the environment produces them: a delivered frame may create its stream, a read or a local
close never does -/
def WF (e : GEv) : Prop := e.creates = (match e.op with | .w _ _ => true | _ => false)

/-- executable global step on the assoc-list table (`DG.Sess`, run by the driver for `dg.s*` ops) -/
def sstep (s : Sess) (e : GEv) : Sess :=
  match e.op with
  | .w c d => (s.deliver ⟨e.sid, c, d⟩).1
  | .r cap => (s.read e.sid cap).1
  | .c => match s.get e.sid with
      | some p => s.set e.sid (close p)
      | none => s

theorem sess_sim : ∀ (evs : List GEv) (s : Sess) (tbl : Nat → Option Run), (∀ e ∈ evs, WF e) →
    (∀ sid, s.get sid = (tbl sid).map (·.p)) →
    ∀ sid, (evs.foldl sstep s).get sid = ((evs.foldl gstep tbl) sid).map (·.p) := by
  intro evs
  induction evs with
  | nil => intro s tbl _ h sid; exact h sid
  | cons e r ih =>
    intro s tbl hwf h sid
    simp only [List.foldl_cons]
    apply ih _ _ (fun e' he' => hwf e' (by simp [he']))
    intro sid'
    have he := h e.sid
    have hw : WF e := hwf e (by simp)
    simp only [gstep, DgDemux.gstep]
    by_cases hs : sid' = e.sid
    · subst hs
      simp only [if_true]
      cases ht : tbl e.sid with
      | some st =>
        rw [ht] at he; simp only [Option.map_some] at he
        cases hop : e.op with
        | w c d => simp [sstep, hop, Sess.deliver, he, get_set, step]
        | r cap => simp [sstep, hop, Sess.read, he, get_set, step]
        | c => simp [sstep, hop, he, get_set, step]
      | none =>
        rw [ht] at he; simp only [Option.map_none] at he
        cases hop : e.op with
        | w c d =>
          have hc : e.creates = true := by simpa [WF, hop] using hw
          simp [sstep, hop, hc, Sess.deliver, he, get_set, step, Run.init]
        | r cap =>
          have hc : e.creates = false := by simpa [WF, hop] using hw
          simp [sstep, hop, Sess.read, he, hc]
        | c =>
          have hc : e.creates = false := by simpa [WF, hop] using hw
          simp [sstep, hop, he, hc]
    · simp only [hs, if_false]
      have : (sstep s e).get sid' = s.get sid' := by
        unfold sstep
        cases e.op with
        | w c d => simp only [Sess.deliver]; split <;> simp [get_set, hs]
        | r cap => simp only [Sess.read]; split <;> simp [get_set, hs]
        | c => simp only; split <;> simp [get_set, hs]
      rw [this]; exact h sid'

/-! ## 4. Where a datagram enters a stream from a UDP socket (`client.RouteUDP`, `Stream.ReadFrom`)

`c14_oversize` is about `Stream.Write`.  A datagram of a local UDP socket reaches the stream through a read
into a buffer first, and a packet socket silently cuts the datagram to that buffer.  `EntryWhole` is the
property's sentence for such an entry point, at full strength: *every* non-empty datagram that fits one frame
goes out whole as exactly one frame, *every* larger one is refused and nothing goes out. -/

/-- the full statement for an entry point `f` (datagram ↦ frames emitted, error) -/
def EntryWhole (max : Int) (f : Bytes → List Bytes × SOut) : Prop :=
  ∀ d : Bytes, 0 < d.length →
    ((d.length : Int) ≤ max → f d = ([d], .ok)) ∧ ((d.length : Int) > max → f d = ([], .errShortBuffer))

theorem pktRead_whole (cap : Nat) (d : Bytes) (h : d.length ≤ cap) : pktRead cap d = d := by
  unfold pktRead; exact List.take_of_length_le h

theorem pktRead_length (cap : Nat) (d : Bytes) : (pktRead cap d).length = min cap d.length := by
  unfold pktRead; exact List.length_take

/-- with a buffer that is NOT longer than the maximum, a longer datagram goes out as a frame holding only its
first `buf` bytes — accepted, truncated, delivered -/
theorem entry_truncates (buf : Nat) (max : Int) (d : Bytes) (hb : 0 < buf) (h1 : buf < d.length) (h2 : (buf : Int) ≤ max) :
    udpEntryAt buf max d = ([d.take buf], .ok) ∧ (d.take buf).length = buf := by
  have hl := pktRead_length buf d
  unfold udpEntryAt
  refine ⟨?_, ?_⟩
  · have := (c14_oversize max (pktRead buf d)).2 (by rw [hl]; omega) (by rw [hl]; omega)
    simpa [pktRead] using this
  · rw [List.length_take]; omega

/-- an entry buffer makes `RouteUDP` whole exactly when it is longer than the per-frame maximum: then what fits a frame is read
whole, and what does not fit is still longer than the maximum after the cut, so `Stream.Write` refuses it; otherwise a datagram
one byte longer than the buffer goes out cut (`entry_truncates`) -/
theorem entry_whole_iff (buf : Nat) (max : Int) (h0 : 0 < buf) : EntryWhole max (udpEntryAt buf max) ↔ max < (buf : Int) := by
  constructor
  · intro h
    false_or_by_contra
    rename_i hle
    have hlen : (List.replicate (buf + 1) (0 : UInt8)).length = buf + 1 := List.length_replicate
    have ht := entry_truncates buf max (List.replicate (buf + 1) 0) h0 (by rw [hlen]; omega) (by omega)
    obtain ⟨h1, h2⟩ := h (List.replicate (buf + 1) 0) (by rw [hlen]; omega)
    by_cases hc : ((List.replicate (buf + 1) (0 : UInt8)).length : Int) ≤ max
    · have := congrArg (fun x : List Bytes × SOut => x.1.flatten.length) (ht.1.symm.trans (h1 hc))
      simp at this
    · cases ht.1.symm.trans (h2 (by omega))
  · intro h d hpos
    rw [udpEntryAt, swrite_unordered _ _ (by rw [pktRead_length]; omega), pktRead_length]
    exact ⟨fun hle => by rw [pktRead_whole buf d (by omega), if_pos (by omega)], fun hgt => by rw [if_neg (by omega)]⟩

/-- facts of `client.RouteUDP`: the entry buffer is longer than the largest datagram one frame can carry with the
client's on-wire limit, in fact at least the largest UDP payload (65507); the bytes read are the bytes written;
a refusal drops the stream and the loop goes on (behaviour kept) -/
theorem gen_entry :
    Gen.Datagram.routeUDPBufLen ≥ DG.maxUnit Gen.Datagram.appDataMaxLengthClient + 1 ∧
    Gen.Datagram.routeUDPBufLen ≥ 65507 ∧
    Gen.Datagram.routeUDPWritesWhatWasRead = true ∧ Gen.Datagram.routeUDPRefusalDropsStream = true := by decide

/-- per-stream goroutines of the UDP path own the values they work on ("never ... mixed with ... another stream's data") -/
theorem gen_goroutines_own_values :
    Gen.Deliver.serveSessionGoroutinesOwnTheirValues = true ∧ Gen.Deliver.routeUDPGoroutinesOwnTheirValues = true := ⟨rfl, rfl⟩

/-- the way back (`RouteUDP`'s per-stream goroutine): its read buffer holds the largest datagram one frame can carry with the
client's on-wire limit, so by `c14_short`/`c14_exactly_once` no datagram the peer's `Write` accepted is refused
by that read (8192 bytes before /repo's fix: datagrams of 8193..16132 bytes ended the stream undelivered) -/
theorem gen_return :
    Gen.Datagram.routeUDPReturnBufLen ≥ DG.maxUnit Gen.Datagram.appDataMaxLengthClient ∧
    Gen.Datagram.routeUDPReturnWritesWhatWasRead = true := by decide

/-- **C14 (UDP entry of the client).** `client.RouteUDP` on a session with Cloak's on-wire limit: every datagram of
1..16132 bytes read from the local socket is sent whole as one frame, every longer one is refused by `Stream.Write`
and nothing is sent. -/
theorem c14_entry_whole :
    EntryWhole (DG.maxUnit Gen.Datagram.appDataMaxLengthClient) (udpEntry (DG.maxUnit Gen.Datagram.appDataMaxLengthClient)) := by
  have h := gen_entry.1
  have hm := gen_max_cloak.2.1
  unfold udpEntry
  rw [hm] at h ⊢
  exact (entry_whole_iff _ _ (by omega)).2 (by omega)

/-- for every session limit: any datagram UDP can carry (≤ 65507 bytes) passes the entry buffer untouched, so
`c14_oversize` decides about it -/
theorem c14_entry_transparent (max : Int) (d : Bytes) (h : d.length ≤ 65507) : udpEntry max d = swrite true max d := by
  have hb := gen_entry.2.1
  unfold udpEntry udpEntryAt
  rw [pktRead_whole _ d (by omega)]

/-- the pinned tree read the socket with `make([]byte, 8192)`: the statement is false for it (an 8193-byte datagram
fits a frame and goes out as an 8192-byte message) -/
theorem c14_entry_pinned_witness : ¬ EntryWhole 16132 (udpEntryAt 8192 16132) :=
  fun h => absurd ((entry_whole_iff 8192 16132 (by omega)).1 h) (by omega)

/-- … and every datagram longer than 8192 bytes went out as its first 8192 bytes, whatever its size -/
theorem c14_entry_pinned_truncates (d : Bytes) (h : 8192 < d.length) :
    udpEntryAt 8192 16132 d = ([d.take 8192], .ok) ∧ (d.take 8192).length = 8192 :=
  entry_truncates 8192 16132 d (by omega) h (by omega)

/-- small-scale instance: buffer 3, maximum 5 — a 4-byte datagram is truncated; buffer 6 — whole, and 6 bytes refused -/
example : udpEntryAt 3 5 [1, 2, 3, 4] = ([[1, 2, 3]], .ok) ∧ udpEntryAt 6 5 [1, 2, 3, 4] = ([[1, 2, 3, 4]], .ok) ∧
    udpEntryAt 6 5 [1, 2, 3, 4, 5, 6] = ([], .errShortBuffer) ∧ udpEntryAt 6 5 [1, 2, 3, 4, 5, 6, 7, 8] = ([], .errShortBuffer) := by decide

/-! ### `Stream.ReadFrom` -/

/-- facts of `Stream.ReadFrom`: a packet source on an unordered session is read with ONE byte more than a frame can
carry; every other source with exactly the maximum (byte-stream behaviour unchanged); the bytes read are the frame -/
theorem gen_readfrom (max : Int) :
    Gen.Datagram.readFromLen max true true = max + 1 ∧ Gen.Datagram.readFromLen max true false = max ∧
    Gen.Datagram.readFromLen max false true = max ∧ Gen.Datagram.readFromLen max false false = max ∧
    Gen.Datagram.readFromSendsWhatWasRead = true := by
  exact ⟨by simp [Gen.Datagram.readFromLen], by simp [Gen.Datagram.readFromLen], by simp [Gen.Datagram.readFromLen],
    by simp [Gen.Datagram.readFromLen], rfl⟩

/-- the size test after the read: more than a frame can carry → `io.ErrShortBuffer` before anything is sent -/
theorem gen_readfrom_refuses (r max : Int) : Gen.Datagram.readFromRefuses r max = decide (r > max) := by
  unfold Gen.Datagram.readFromRefuses
  refine Bool.eq_iff_iff.2 ?_
  gen_bool

/-- the longer read still lies inside the pooled send buffer (`make([]byte, streamSendBufferSize)`): no slice panic -/
theorem gen_readfrom_room (limit : Int) (p u : Bool) :
    Gen.Datagram.frameHeaderLen + Gen.Datagram.readFromLen (Gen.Datagram.maxStreamUnitWrite limit) p u
      ≤ Gen.Datagram.streamSendBufferSize limit := by
  have h := gen_readfrom (Gen.Datagram.maxStreamUnitWrite limit)
  have hm := gen_max limit
  have hh : Gen.Datagram.frameHeaderLen = 14 := rfl
  unfold Gen.Datagram.streamSendBufferSize
  rw [hh]
  cases p <;> cases u
  · rw [h.2.2.2.1]; omega
  · rw [h.2.2.1]; omega
  · rw [h.2.1]; omega
  · rw [h.1]; omega

/-- `readFromAt` with one spare byte and the `> max` test is whole -/
theorem readfrom_whole_of (max : Nat) : EntryWhole (max : Int) (readFromAt (max + 1) (fun k => decide ((k : Int) > (max : Int)))) := by
  intro d hpos
  have hl := pktRead_length (max + 1) d
  unfold readFromAt
  constructor
  · intro hle
    have hle' : d.length ≤ max := by omega
    rw [pktRead_whole (max + 1) d (by omega)]
    have : ¬ ((d.length : Int) > (max : Int)) := by omega
    simp [this]
  · intro hgt
    have : ((pktRead (max + 1) d).length : Int) > (max : Int) := by rw [hl]; omega
    simp [this]

/-- **C14 (UDP entry of the server).** `Stream.ReadFrom` on an unordered stream fed by a packet source: every datagram
of 1..max bytes goes out whole as one frame, every longer one is refused (`io.ErrShortBuffer`) and nothing goes out. -/
theorem c14_readfrom_whole (max : Nat) : EntryWhole (max : Int) (readFromPkt true (max : Int)) := by
  have h := readfrom_whole_of max
  unfold readFromPkt
  rw [(gen_readfrom (max : Int)).1]
  have : (fun k : Nat => Gen.Datagram.readFromRefuses (k : Int) (max : Int)) = (fun k : Nat => decide ((k : Int) > (max : Int))) := by
    funext k; exact gen_readfrom_refuses _ _
  rw [this]
  have hn : ((max : Int) + 1).toNat = max + 1 := by omega
  rw [hn]; exact h

/-- byte-stream sources are treated as before the repair: read length = the maximum, never refused, so the frames are
the consecutive chunks of at most `max` bytes (one step of the loop shown) -/
theorem c14_readfrom_stream_unchanged (u : Bool) (max : Nat) (rest : Bytes) (sent : List Bytes) (fuel : Nat) (h : 0 < rest.length) :
    readFromStreamLoop (Gen.Datagram.readFromLen (max : Int) false u).toNat (fun k => Gen.Datagram.readFromRefuses (k : Int) (max : Int)) (fuel + 1) rest sent
      = readFromStreamLoop max (fun k => Gen.Datagram.readFromRefuses (k : Int) (max : Int)) fuel (rest.drop max) (sent ++ [rest.take max]) := by
  have hl : (Gen.Datagram.readFromLen (max : Int) false u).toNat = max := by
    cases u
    · rw [(gen_readfrom (max : Int)).2.2.2.1]; omega
    · rw [(gen_readfrom (max : Int)).2.2.1]; omega
  rw [hl, readFromStreamLoop]
  have h0 : ¬ rest.length = 0 := by omega
  have hr : Gen.Datagram.readFromRefuses ((min max rest.length : Nat) : Int) (max : Int) = false := by
    rw [gen_readfrom_refuses]; simp only [decide_eq_false_iff_not]; omega
  simp [h0, hr]

/-- the pinned tree read with exactly `max` bytes of room and had no size test: the statement is false for it (a
16133-byte datagram goes out as a 16132-byte message) -/
theorem readfrom_not_whole (max : Nat) : ¬ EntryWhole (max : Int) (readFromAt max (fun _ => false)) := by
  intro h
  have hlen : (List.replicate (max + 1) (0 : UInt8)).length = max + 1 := List.length_replicate
  have h1 := (h (List.replicate (max + 1) 0) (by rw [hlen]; omega)).2 (by rw [hlen]; omega)
  simp [readFromAt] at h1

theorem c14_readfrom_pinned_witness : ¬ EntryWhole 16132 (readFromAt 16132 (fun _ => false)) :=
  readfrom_not_whole 16132

example : readFromAt 6 (fun k => decide ((k : Int) > 5)) [1, 2, 3, 4, 5] = ([[1, 2, 3, 4, 5]], .ok) ∧
    readFromAt 6 (fun k => decide ((k : Int) > 5)) [1, 2, 3, 4, 5, 6, 7] = ([], .errShortBuffer) ∧
    readFromAt 5 (fun _ => false) [1, 2, 3, 4, 5, 6, 7] = ([[1, 2, 3, 4, 5]], .ok) := by decide

end C14

#print axioms C14.c14_inv
#print axioms C14.c14_fifo_whole
#print axioms C14.c14_short
#print axioms C14.c14_drain
#print axioms C14.c14_oversize
#print axioms C14.c14_isolation
#print axioms C14.gen_structure
#print axioms C14.c14_exactly_once
#print axioms C14.c14_entry_whole
#print axioms C14.c14_readfrom_whole
