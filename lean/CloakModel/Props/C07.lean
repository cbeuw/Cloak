import CloakModel.Model.Dispatch
import CloakModel.Lemmas.AuthWindow
import CloakModel.Gen.AuthDH
import CloakModel.Lemmas.GenBridge

/-! # C07 — Only holders of valid, timely credentials are ever treated as Cloak clients

The decision function `HS.decide` (`Model/Dispatch.lean`, what the driver runs against the real
`dispatchConnection` / `AuthFirstPacket`) answers a peer with a handshake reply (`admin`, `proxy`) only if `Valid` holds:
the first packet is complete, the transport extracts 32 bytes `rand` and a block `ct`, key agreement
with the static key succeeds, the block OPENS under that secret with nonce `rand[0:12]` (so, by the
law `Lawful.open_sound`, it IS the sealing of the plaintext under the secret shared with the server's
static key: encrypted to the server key, unmodified), `rand` was not seen before, the timestamp is
strictly inside the window, the encryption method is one of those served, and either the admin gate
holds or the proxy method is served and the UID is bypass / already active / authorised by the store.
Everything else that is a complete first packet goes to the redirect address — including the packet of an entitled
user whose new session `GetSession` refuses (session cap reached; credit / expiry of a cached active user no longer
allow one): `c07_handled`, `c07_refused_session_web`; no first packet is left unanswered, unrelayed and unclosed. -/
set_option linter.unusedSimpArgs false
set_option linter.unusedVariables false

namespace C07
open HS Replay

/-! ## 1. Regenerated terms -/

/-- **C07 (window).** The window test regenerated from `decryptClientInfo` accepts exactly the
timestamps strictly inside `(now − tolerance, now + tolerance)` (nanoseconds, over `Int`): an
off-by-one (`After` → `!Before`) or a dropped side makes this false. -/
theorem c07_window_exact (ts now : Int) :
    Gen.Auth.windowReject ts now = false ↔
      (now - Gen.Auth.timestampTolerance < ts * 1000000000 ∧ ts * 1000000000 < now + Gen.Auth.timestampTolerance) := by
  have := window_exact ts now
  unfold inWindow at this
  simpa using this

/-- both edges are closed out, one nanosecond inside is in -/
example : Gen.Auth.windowReject 1000 (1000 * 1000000000 + Gen.Auth.timestampTolerance) = true ∧
    Gen.Auth.windowReject 1000 (1000 * 1000000000 - Gen.Auth.timestampTolerance) = true ∧
    Gen.Auth.windowReject 1000 (1000 * 1000000000 + Gen.Auth.timestampTolerance - 1) = false ∧
    Gen.Auth.windowReject 1000 (1000 * 1000000000 - Gen.Auth.timestampTolerance + 1) = false := by decide

theorem gen_admin_gate (l : Int) (e : Bool) (sid : Int) :
    Gen.Auth.adminGate l e sid = true ↔ (l ≠ 0 ∧ e = true ∧ sid = 0) := by
  unfold Gen.Auth.adminGate
  cases e
  · simp
  · simp only [Bool.and_true, true_and]; gen_bool

theorem gen_enc (e : UInt8) : Gen.Auth.encMethods.contains (e.toNat : Int) = true ↔ e.toNat ≤ 3 := by
  unfold Gen.Auth.encMethods
  simp only [List.contains_cons, List.contains_nil, Bool.or_false, Bool.or_eq_true, beq_iff_eq]
  omega

theorem gen_db_authn (up down expiry nowSec : Int) :
    (!(Gen.Auth.authnUpBad up) && !(Gen.Auth.authnDownBad down) && !(Gen.Auth.authnExpired expiry nowSec)) = true ↔
      (0 < up ∧ 0 < down ∧ nowSec ≤ expiry) := by
  unfold Gen.Auth.authnUpBad Gen.Auth.authnDownBad Gen.Auth.authnExpired
  gen_bool

theorem gen_db_authz (up down expiry nowSec n cap : Int) :
    (!(Gen.Auth.authzUpBad up) && !(Gen.Auth.authzDownBad down) && !(Gen.Auth.authzExpired expiry nowSec) &&
      !(Gen.Auth.authzCapReached n cap)) = true ↔ (0 < up ∧ 0 < down ∧ nowSec ≤ expiry ∧ n < cap) := by
  unfold Gen.Auth.authzUpBad Gen.Auth.authzDownBad Gen.Auth.authzExpired Gen.Auth.authzCapReached
  gen_bool

/-- branch structure of `dispatchConnection`, `decryptClientInfo`, `IsBypass`, the two user-manager
functions and `MakeObfuscator` that the decision function mirrors: every rejection before a reply
ends in `goWeb(); return`; replies only inside the admin gate and after `GetSession`; the API router
only inside the gate; bypass users skip the store; the store tests not-found, both credits, expiry -/
theorem gen_structure :
    Gen.Auth.dispatchOrder = true ∧ Gen.Auth.authErrWeb = true ∧ Gen.Auth.obfErrWeb = true ∧
    Gen.Auth.proxyMissWeb = true ∧ Gen.Auth.userErrWeb = true ∧ Gen.Auth.bypassSplit = true ∧
    Gen.Auth.getSessionErrReturns = true ∧ Gen.Auth.replyOnlyAfterChecks = true ∧
    Gen.Auth.apiOnlyInsideGate = true ∧ Gen.Auth.isBypassLookup = true ∧ Gen.Auth.openBeforeWindow = true ∧
    Gen.Auth.encDefaultIsError = true ∧ Gen.Auth.authnOrder = true ∧ Gen.Auth.authzOrder = true ∧
    Gen.Replay.registerBeforeDecrypt = true ∧ Gen.Replay.replayReturnsBeforeDecrypt = true ∧
    Gen.Handshake.parsersRecover = 3 := by and_intros <;> rfl

/-! ## 2. What "valid, timely credentials" means -/

/-- the user store currently authorises `uid`: the record exists, both credits are positive and it
has not expired (whole seconds) -/
def StoreAuthorises (s : Srv) (uid : Bytes) (nowSec : Int) : Prop :=
  ∃ u, s.db.find? (fun r => r.1 == uid) = some (uid, u) ∧ 0 < u.upCredit ∧ 0 < u.downCredit ∧ nowSec ≤ u.expiry

theorem dbAuthenticate_iff (s : Srv) (uid : Bytes) (nowSec : Int) :
    dbAuthenticate s uid nowSec = true ↔ StoreAuthorises s uid nowSec := by
  unfold dbAuthenticate StoreAuthorises
  cases hf : s.db.find? (fun r => r.1 == uid) with
  | none => simp
  | some r =>
    obtain ⟨k, u⟩ := r
    have hk : k = uid := by
      have := List.find?_some hf; simpa using this
    subst hk
    simp only [gen_db_authn]
    constructor
    · intro h; exact ⟨u, rfl, h⟩
    · rintro ⟨u', he, h⟩
      have : u = u' := by simpa using he
      subst this; exact h

/-! ### the proxy book: a name is found if it is written like an entry, in any (ASCII) case

C06 ("every … option value the configuration allows") meets C07 ("a proxy method it serves"): `parseProxyBook` keeps
the operator's names lower-cased, so the admission test and `serveSession` must look a received name up lower-cased too.
Before /repo's fix the lookup used the name as received and a ProxyMethod written exactly like its mixed-case ProxyBook
entry — the documented way — was refused (`pinned_mixed_case_refused`). -/

/-- the bypass list the server holds is the configured entries, each zero-padded to 16 bytes on its own (before /repo's fix a
short entry inherited the tail of the previous one: a UID that appears nowhere in the configuration was authorised) -/
theorem gen_bypass_key : Gen.Auth.bypassKeyFreshPerEntry = true ∧ Gen.Auth.isBypassLookup = true := by and_intros <;> rfl

theorem gen_proxy_book :
    Gen.Auth.proxyLookupLowercases = true ∧ Gen.Auth.proxyBookLowercasedAtLoad = true ∧
    Gen.Auth.proxyLookupSameKeyInServe = true := by and_intros <;> rfl

/-- the book the server holds for the names the operator wrote -/
def loadBook (names : List Bytes) : List Bytes :=
  if Gen.Auth.proxyBookLowercasedAtLoad then names.map lowerAscii else names

/-- a client configured with a name that equals a ProxyBook entry up to ASCII case passes the served-method test -/
theorem c06_method_found (names : List Bytes) (n m : Bytes) (hn : n ∈ names) (hc : lowerAscii m = lowerAscii n) :
    (loadBook names).contains (bookKey m) = true := by
  unfold loadBook bookKey
  rw [gen_proxy_book.1, gen_proxy_book.2.1]
  simp only [if_true, List.contains_eq_mem, decide_eq_true_eq, List.mem_map]
  exact ⟨n, hn, hc.symm⟩

/-- and only such names pass it -/
theorem c07_method_served_only (names : List Bytes) (m : Bytes) (h : (loadBook names).contains (bookKey m) = true) :
    ∃ n ∈ names, lowerAscii n = lowerAscii m := by
  unfold loadBook bookKey at h
  rw [gen_proxy_book.1, gen_proxy_book.2.1] at h
  simpa only [if_true, List.contains_eq_mem, decide_eq_true_eq, List.mem_map] using h

/-- the defect repaired in /repo: with the lookup key taken as received, the entry `MixedCaseSS` (kept as
`mixedcasess`) is not found under the very name the operator wrote -/
theorem pinned_mixed_case_refused :
    let name : Bytes := [77, 105, 120, 101, 100, 67, 97, 115, 101, 83, 83]   -- "MixedCaseSS"
    ([name].map lowerAscii).contains name = false ∧ ([name].map lowerAscii).contains (lowerAscii name) = true := by
  decide

/-- the credentials clause of the property for an authenticated `info` -/
def Entitled (s : Srv) (info : ClientInfo) (now : Int) : Prop :=
  info.enc.toNat ≤ 3 ∧
  ((s.adminUID ≠ [] ∧ info.uid = s.adminUID ∧ info.sid = 0) ∨
   (bookKey info.method ∈ s.proxyBook ∧
     (info.uid ∈ s.bypass ∨ isActive s info.uid = true ∨ StoreAuthorises s info.uid (now / 1000000000))))

/-- a complete first packet carrying valid, timely, fresh credentials -/
def Valid (C : Crypto) (s : Srv) (stream : Bytes) (hidden : Option Bytes) (now : Int) : Prop :=
  ∃ t data rand ct secret pt info,
    readFirst stream = .packet t data ∧
    extract C s t data hidden = .ok rand ct secret ∧
    (∃ s0, C.dh s.sk rand = some s0 ∧ secret = fit 32 s0) ∧
    used s.cache (G.keyOf rand) = false ∧
    C.gcmOpen secret (slice rand Gen.Handshake.sNonceLo Gen.Handshake.sNonceHi) ct = some pt ∧
    (now - Gen.Auth.timestampTolerance < plainTs pt * 1000000000 ∧ plainTs pt * 1000000000 < now + Gen.Auth.timestampTolerance) ∧
    plainInfo pt (beNat (slice pt Gen.Handshake.sSidLo Gen.Handshake.sSidHi)) = some info ∧
    Entitled s info now

/-! ## 3. The decision function -/

theorem authFrag_ok (C : Crypto) (cache : Cache) (f : Fragments) (now : Int) (c : Cache) (info : ClientInfo)
    (h : authFrag C cache f now = (c, .ok info)) :
    used cache (G.keyOf f.rand) = false ∧
    ∃ pt, C.gcmOpen f.shared (slice f.rand Gen.Handshake.sNonceLo Gen.Handshake.sNonceHi) f.ct = some pt ∧
      inWindow (plainTs pt) now = true ∧
      plainInfo pt (beNat (slice pt Gen.Handshake.sSidLo Gen.Handshake.sSidHi)) = some info := by
  simp only [authFrag, register] at h
  cases hu : used cache (G.keyOf f.rand)
  · cases hdi : decryptInfo C f now with
    | error e => simp [hu, hdi] at h
    | ok info' =>
      obtain ⟨_, rfl⟩ : _ ∧ info' = info := by simpa [hu, hdi] using h
      obtain ⟨pt, hop, _, hpi, hw⟩ := (decryptInfo_ok_iff C f now info').1 hdi
      exact ⟨rfl, pt, hop, hw, hpi⟩
  · simp [hu] at h

theorem extract_ok_dh (C : Crypto) (s : Srv) (t : Transport) (data : Bytes) (hidden : Option Bytes)
    (rand ct secret : Bytes) (h : extract C s t data hidden = .ok rand ct secret) :
    ∃ s0, C.dh s.sk rand = some s0 ∧ secret = fit 32 s0 := by
  unfold extract at h
  cases t with
  | tls =>
    simp only [tlsExtract] at h
    cases hp : parseClientHello data with
    | none => simp [hp] at h
    | some ch =>
      simp only [hp, unmarshalCH] at h
      cases hd : C.dh s.sk (fit 32 ch.random) with
      | none => simp [hd] at h
      | some s0 =>
        simp only [hd] at h
        split at h
        · simp at h
        · split at h
          · simp at h
          · injection h with h1 h2 h3
            exact ⟨s0, by rw [← h1]; exact hd, h3.symm⟩
  | ws =>
    simp only at h
    cases hidden with
    | none => simp at h
    | some hd =>
      simp only [wsExtract] at h
      split at h
      · simp at h
      · cases hdh : C.dh s.sk (fit 32 (slice hd Gen.Handshake.wsRandLo Gen.Handshake.wsRandHi)) with
        | none => simp [hdh] at h
        | some s0 =>
          simp only [hdh] at h
          split at h
          · simp at h
          · injection h with h1 h2 h3
            exact ⟨s0, by rw [← h1]; exact hdh, h3.symm⟩

/-- the branch of `dispatchConnection` taken when `user.GetSession` refuses a new session ends in `goWeb(); return`
and does not reply -/
theorem gen_getsession_refusal : Gen.Auth.getSessionErrGoesWeb = true ∧ Gen.Auth.getSessionErrReturns = true := by and_intros <;> rfl

/-- the admin gate in the terms of `Entitled` -/
theorem adminGate_iff (s : Srv) (info : ClientInfo) :
    Gen.Auth.adminGate (s.adminUID.length : Int) (info.uid == s.adminUID) (info.sid : Int) = true ↔
      (s.adminUID ≠ [] ∧ info.uid = s.adminUID ∧ info.sid = 0) := by
  rw [gen_admin_gate, beq_iff_eq, Ne, Int.natCast_eq_zero, List.length_eq_zero_iff, Int.natCast_eq_zero]

theorem none_of_three (a b c : Bool) : (!a && !b && !c) = true ↔ ¬ (a = true ∨ b = true ∨ c = true) := by
  cases a <;> cases b <;> cases c <;> decide

/-- **the post-authentication branches, inverted**: relay, or the admin API for the gate, or a proxy session for a
served method and an admitted user -/
theorem dispatchInfo_cases (s : Srv) (info : ClientInfo) (now : Int) :
    (dispatchInfo s info now).2 = .web ∨
    info.enc.toNat ≤ 3 ∧
      ((s.adminUID ≠ [] ∧ info.uid = s.adminUID ∧ info.sid = 0) ∧ (dispatchInfo s info now).2 = .admin ∨
       ¬ (s.adminUID ≠ [] ∧ info.uid = s.adminUID ∧ info.sid = 0) ∧ bookKey info.method ∈ s.proxyBook ∧
         (info.uid ∈ s.bypass ∨ isActive s info.uid = true ∨ StoreAuthorises s info.uid (now / 1000000000)) ∧
         ∃ ex, (dispatchInfo s info now).2 = .proxy info.uid info.sid ex) := by
  generalize hd : (dispatchInfo s info now).2 = d
  rw [dispatchInfo, dispatchInfoWith, gen_getsession_refusal.1] at hd
  cases henc : Gen.Auth.encMethods.contains (info.enc.toNat : Int)
  · rw [henc] at hd; exact .inl hd.symm
  refine Or.imp_right (fun h => ⟨(gen_enc info.enc).1 henc, h⟩) ?_
  rw [henc, if_neg (by decide)] at hd
  by_cases hg : Gen.Auth.adminGate (s.adminUID.length : Int) (info.uid == s.adminUID) (info.sid : Int) = true
  · rw [if_pos hg] at hd; exact .inr (.inl ⟨(adminGate_iff s info).1 hg, hd.symm⟩)
  rw [if_neg hg] at hd
  cases hm : s.proxyBook.contains (bookKey info.method)
  · rw [hm] at hd; exact .inl hd.symm
  rw [hm, if_neg (by decide)] at hd
  by_cases hu : (!(isBypass s info.uid) && !(isActive s info.uid) && !(dbAuthenticate s info.uid (now / 1000000000))) = true
  · rw [if_pos hu] at hd; exact .inl hd.symm
  rw [if_neg hu] at hd
  have huser := (Decidable.not_not.1 (mt (none_of_three _ _ _).2 hu)).imp List.contains_iff_mem.1
    (Or.imp_right (dbAuthenticate_iff ..).1)
  have hg' := mt (adminGate_iff s info).2 hg
  have hm' := List.contains_iff_mem.1 hm
  simp only [apply_ite Prod.snd, if_true] at hd
  split at hd
  · exact .inr (.inr ⟨hg', hm', huser, _, hd.symm⟩)
  · split at hd
    · exact .inl hd.symm
    · exact .inr (.inr ⟨hg', hm', huser, _, hd.symm⟩)

/-- what each outcome of the post-authentication branches implies -/
theorem dispatchInfo_entitled (s : Srv) (info : ClientInfo) (now : Int) (d : Decision)
    (h : (dispatchInfo s info now).2 = d) (hd : d ≠ .web) :
    Entitled s info now ∧ d ≠ .closeOnly ∧
    (d = .admin ↔ (info.enc.toNat ≤ 3 ∧ s.adminUID ≠ [] ∧ info.uid = s.adminUID ∧ info.sid = 0)) := by
  subst h
  rcases dispatchInfo_cases s info now with h | ⟨henc, ⟨hg, h⟩ | ⟨hg, hm, hu, ex, h⟩⟩
  · exact absurd h hd
  · simp [h, Entitled, henc, hg]
  · simp [h, Entitled, henc, hg, hm, hu]

theorem dispatchInfo_no_stall (s : Srv) (info : ClientInfo) (now : Int) : (dispatchInfo s info now).2 ≠ .stall := by
  rcases dispatchInfo_cases s info now with h | ⟨_, ⟨_, h⟩ | ⟨_, _, _, _, h⟩⟩ <;> simp [h]

/-- the decision for an authenticated first packet is that of the post-authentication branches -/
theorem decide_of_auth {C : Crypto} {s : Srv} {stream : Bytes} {hidden : Option Bytes} {now : Int} {t data rand ct secret c info}
    (hr : readFirst stream = .packet t data) (he : extract C s t data hidden = .ok rand ct secret)
    (ha : authFrag C s.cache ⟨secret, rand, ct⟩ now = (c, .ok info)) :
    HS.decide C s stream hidden now = dispatchInfo { s with cache := c } info now := by
  simp only [HS.decide, hr, dispatchFrag, he, ha]

/-- **the decision function, inverted**: closed for an incomplete first packet, else relay, else the post-authentication
branches for a packet that was read, taken apart and authenticated -/
theorem decide_cases (C : Crypto) (s : Srv) (stream : Bytes) (hidden : Option Bytes) (now : Int) :
    (readFirst stream = .closed ∧ (HS.decide C s stream hidden now).2 = .closeOnly) ∨
    (readFirst stream ≠ .closed ∧ (HS.decide C s stream hidden now).2 = .web) ∨
    ∃ t data rand ct secret c info, readFirst stream = .packet t data ∧ extract C s t data hidden = .ok rand ct secret ∧
      authFrag C s.cache ⟨secret, rand, ct⟩ now = (c, .ok info) ∧
      HS.decide C s stream hidden now = dispatchInfo { s with cache := c } info now := by
  cases hr : readFirst stream with
  | closed => exact .inl ⟨rfl, by rw [HS.decide, hr]⟩
  | web => exact .inr (.inl ⟨nofun, by rw [HS.decide, hr]⟩)
  | packet t data =>
    have hweb : (dispatchFrag C s (extract C s t data hidden) now).2 = .web →
        ReadRes.packet t data ≠ .closed ∧ (HS.decide C s stream hidden now).2 = .web :=
      fun h => ⟨nofun, by rw [HS.decide, hr]; exact h⟩
    cases he : extract C s t data hidden with
    | ok rand ct secret =>
      rcases ha : authFrag C s.cache ⟨secret, rand, ct⟩ now with ⟨c, _ | _⟩
      · exact .inr (.inr ⟨t, data, rand, ct, secret, c, _, rfl, he, ha, decide_of_auth hr he ha⟩)
      all_goals exact .inr (.inl (hweb (by rw [he, dispatchFrag, ha])))
    | _ => exact .inr (.inl (hweb (by rw [he]; rfl)))

/-- **C07 (soundness).** Whatever bytes a peer sends, whatever the server's replay cache, active users
and user records: if the decision is anything other than "relay to the redirect address" or "close
an incomplete first packet", the stream carried valid, timely, fresh credentials (`Valid`). -/
theorem c07_sound (C : Crypto) (s : Srv) (stream : Bytes) (hidden : Option Bytes) (now : Int) (d : Decision)
    (h : (HS.decide C s stream hidden now).2 = d) (hw : d ≠ .web) (hc : d ≠ .closeOnly) :
    Valid C s stream hidden now := by
  subst h
  rcases decide_cases C s stream hidden now with ⟨_, h⟩ | ⟨_, h⟩ | ⟨t, data, rand, ct, secret, c, info, hr, he, ha, h⟩
  · exact absurd h hc
  · exact absurd h hw
  · obtain ⟨hu, pt, hop, hwin, hpi⟩ := authFrag_ok C s.cache ⟨secret, rand, ct⟩ now c info ha
    exact ⟨t, data, rand, ct, secret, pt, info, hr, he, extract_ok_dh C s t data hidden rand ct secret he,
      hu, hop, (window_exact _ _).1 hwin, hpi, (dispatchInfo_entitled { s with cache := c } info now _ rfl (h ▸ hw)).1⟩

/-- "encrypted to the server's static key, unmodified": under the law that GCM decryption is
deterministic (`Lawful.open_sound`, true of the real primitive) the accepted block IS the sealing of
its plaintext under the secret the presented 32 bytes share with the server's static key, with the
first 12 of those bytes as nonce -/
theorem c07_sealed_to_server_key (C : Crypto) (hL : Lawful C) (s : Srv) (stream : Bytes) (hidden : Option Bytes) (now : Int)
    (hv : Valid C s stream hidden now) :
    ∃ rand ct s0 pt, C.dh s.sk rand = some s0 ∧
      ct = C.gcmSeal (fit 32 s0) (slice rand Gen.Handshake.sNonceLo Gen.Handshake.sNonceHi) pt := by
  obtain ⟨t, data, rand, ct, secret, pt, info, _, _, ⟨s0, hs0, hsec⟩, _, hop, _⟩ := hv
  exact ⟨rand, ct, s0, pt, hs0, by rw [← hsec]; exact hL.open_sound _ _ _ _ hop⟩

/-- only an incomplete first packet is closed without an answer -/
theorem decide_closeOnly {C : Crypto} {s : Srv} {stream : Bytes} {hidden : Option Bytes} {now : Int}
    (h : (HS.decide C s stream hidden now).2 = .closeOnly) : readFirst stream = .closed := by
  rcases decide_cases C s stream hidden now with ⟨hr, _⟩ | ⟨_, h'⟩ | ⟨_, _, _, _, _, c, info, _, _, _, h'⟩
  · exact hr
  · simp [h'] at h
  · rw [h'] at h
    exact absurd h (dispatchInfo_entitled _ info now _ rfl (by simp [h])).2.1

/-- **C07 (everything else is web traffic).** A complete first packet that does not carry valid,
timely, fresh credentials is relayed to the redirect address. -/
theorem c07_else_web (C : Crypto) (s : Srv) (stream : Bytes) (hidden : Option Bytes) (now : Int)
    (hcomplete : readFirst stream ≠ .closed) (hnv : ¬ Valid C s stream hidden now) :
    (HS.decide C s stream hidden now).2 = .web :=
  Decidable.byContradiction fun hw => hnv (c07_sound C s stream hidden now _ rfl hw fun hc => hcomplete (decide_closeOnly hc))

/-- **C07 (admin gate).** The user-management API is reached exactly when an authenticated packet
names the configured, non-empty admin UID with session id 0 (and a served encryption method);
`Gen.Auth.apiOnlyInsideGate`: no other branch of the server calls the API router. -/
theorem c07_admin_gate (C : Crypto) (s : Srv) (stream : Bytes) (hidden : Option Bytes) (now : Int) :
    (HS.decide C s stream hidden now).2 = .admin ↔
      ∃ t data rand ct secret c info,
        readFirst stream = .packet t data ∧ extract C s t data hidden = .ok rand ct secret ∧
        authFrag C s.cache ⟨secret, rand, ct⟩ now = (c, .ok info) ∧
        info.enc.toNat ≤ 3 ∧ s.adminUID ≠ [] ∧ info.uid = s.adminUID ∧ info.sid = 0 := by
  constructor
  · intro h
    rcases decide_cases C s stream hidden now with ⟨_, h'⟩ | ⟨_, h'⟩ | ⟨t, data, rand, ct, secret, c, info, hr, he, ha, h'⟩
    · simp [h'] at h
    · simp [h'] at h
    · exact ⟨t, data, rand, ct, secret, c, info, hr, he, ha,
        (dispatchInfo_entitled { s with cache := c } info now .admin (h' ▸ h) (by simp)).2.2.1 rfl⟩
  · rintro ⟨t, data, rand, ct, secret, c, info, hr, he, ha, henc, hg⟩
    rw [decide_of_auth hr he ha, dispatchInfo, dispatchInfoWith, if_neg (by rw [(gen_enc info.enc).2 henc]; decide),
      if_pos ((adminGate_iff { s with cache := c } info).2 hg)]

/-! ## 4. No first packet is left hanging -/

/-- **C07 (every first packet is handled).** Whatever a peer sends and whatever the server's state, the connection
ends in exactly one of: closed (incomplete first packet), relayed to the redirect address, the admin API, a proxy
session.  It is never left with no reply, no relay and no close. -/
theorem c07_handled (C : Crypto) (s : Srv) (stream : Bytes) (hidden : Option Bytes) (now : Int) :
    (HS.decide C s stream hidden now).2 ≠ .stall := by
  rcases decide_cases C s stream hidden now with ⟨_, h⟩ | ⟨_, h⟩ | ⟨_, _, _, _, _, _, _, _, _, _, h⟩
  · simp [h]
  · simp [h]
  · rw [h]; exact dispatchInfo_no_stall _ _ _

/-- **C07 (every other first packet is web traffic).** A complete first packet that is not accepted as a Cloak
handshake (neither the admin API nor a proxy session) is relayed to the redirect address — whether or not it carried
valid credentials (a valid packet may be refused: `c07_refused_session_web`). -/
theorem c07_not_accepted_web (C : Crypto) (s : Srv) (stream : Bytes) (hidden : Option Bytes) (now : Int)
    (hcomplete : readFirst stream ≠ .closed)
    (hna : (HS.decide C s stream hidden now).2 ≠ .admin)
    (hnp : ∀ uid sid ex, (HS.decide C s stream hidden now).2 ≠ .proxy uid sid ex) :
    (HS.decide C s stream hidden now).2 = .web := by
  cases hd : (HS.decide C s stream hidden now).2 with
  | web => rfl
  | closeOnly => exact absurd (decide_closeOnly hd) hcomplete
  | admin => exact absurd hd hna
  | proxy uid sid ex => exact absurd hd (hnp uid sid ex)
  | stall => exact absurd hd (c07_handled C s stream hidden now)

/-- **C07 (a refused new session is web traffic).** An authenticated packet of a non-bypass user that names a served
method and a session id the user does not have, while the store does not authorise another session (cap reached,
credit exhausted, expired, record deleted — e.g. for a user still cached as active): relayed to the redirect address,
exactly like the same packet of a user that is not active. -/
theorem c07_refused_session_web (s : Srv) (info : ClientInfo) (now : Int)
    (henc : Gen.Auth.encMethods.contains (info.enc.toNat : Int) = true)
    (hgate : Gen.Auth.adminGate (s.adminUID.length : Int) (info.uid == s.adminUID) (info.sid : Int) = false)
    (hm : s.proxyBook.contains (bookKey info.method) = true)
    (hbyp : isBypass s info.uid = false)
    (hnew : (sessionsOf s info.uid).contains info.sid = false)
    (hrefuse : dbAuthoriseSession s info.uid (now / 1000000000) (sessionsOf s info.uid).length = false) :
    (dispatchInfo s info now).2 = .web := by
  unfold dispatchInfo dispatchInfoWith
  rw [gen_getsession_refusal.1]
  simp [henc, hgate, hm, hbyp, hnew, hrefuse, apply_ite Prod.snd]
  intro _ _ _
  simpa using hnew

/-- the pinned code (`user.CloseSession(…); log.Error(err); return` — the fact is `false`): the second session of a
user whose cap is 1 is neither answered, relayed nor closed -/
theorem c07_stall_pinned_witness :
    let uidU : Bytes := List.replicate 16 2
    let s : Srv := ⟨[], [], [], [[115]], [(uidU, ⟨10, 10, 2000, 1⟩)], [], [(uidU, [0])]⟩
    (dispatchInfoWith false s ⟨uidU, 5, [115], 1, false⟩ 1000000000000).2 = .stall ∧
    (dispatchInfoWith true s ⟨uidU, 5, [115], 1, false⟩ 1000000000000).2 = .web := by
  decide

/-- non-vacuity: a server with an admin, a store record and a served method; the branches after
authentication really produce `admin`, `proxy` and `web` (the refused second session of a user with cap 1 included) -/
example :
    let uidA : Bytes := List.replicate 16 1
    let uidU : Bytes := List.replicate 16 2
    let s : Srv := ⟨[], uidA, [uidA], [[115]], [(uidU, ⟨10, 10, 2000, 1⟩)], [], []⟩
    (dispatchInfo s ⟨uidA, 0, [115], 1, false⟩ 1000000000000).2 = .admin ∧
    (dispatchInfo s ⟨uidA, 7, [115], 1, false⟩ 1000000000000).2 = .proxy uidA 7 false ∧
    (dispatchInfo s ⟨uidU, 0, [115], 1, false⟩ 1000000000000).2 = .proxy uidU 0 false ∧
    (dispatchInfo (dispatchInfo s ⟨uidU, 0, [115], 1, false⟩ 1000000000000).1 ⟨uidU, 5, [115], 1, false⟩ 1000000000000).2 = .web ∧
    (dispatchInfo s ⟨uidU, 0, [115], 1, false⟩ 2001000000000).2 = .web ∧
    (dispatchInfo s ⟨uidU, 0, [116], 1, false⟩ 1000000000000).2 = .web ∧
    (dispatchInfo s ⟨uidU, 0, [115], 4, false⟩ 1000000000000).2 = .web := by
  decide

end C07

#print axioms C07.c07_sound
#print axioms C07.c07_else_web
#print axioms C07.c07_admin_gate
#print axioms C07.c07_window_exact
#print axioms C07.c07_handled
#print axioms C07.c07_not_accepted_web
#print axioms C07.c07_refused_session_web

/-- **the key agreement refuses degenerate peer values** (regenerated facts): `ecdh.GenerateSharedSecret` returns what
`curve25519.X25519` returns, error included, and both transports stop on that error before using the secret.  The
model's `Crypto.dh` is partial for exactly this reason (`HS.Lawful` speaks about successful agreements only); with
`ScalarMult` (no error) a small-order point yields the all-zero secret for every private key, and a payload sealed to
it by anybody would be accepted. -/
theorem C07.gen_dh : Gen.AuthDH.dhReturnsX25519WithError = true ∧ Gen.AuthDH.tlsStopsOnDHError = true ∧
    Gen.AuthDH.wsStopsOnDHError = true := by and_intros <;> rfl
