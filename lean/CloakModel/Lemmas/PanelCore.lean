import CloakModel.Model.Panel

/-! Helper lemmas about the association lists and record tables of `Model/Panel.lean`. -/
namespace Panel

theorem lookup_nil {α : Type} (k : Nat) : lookup ([] : List (Nat × α)) k = none := rfl

/-- a list of named tests lets through exactly when none of them fires -/
theorem firstFail_none (l : List (String × Bool)) : firstFail l = none ↔ ∀ x ∈ l, x.2 = false := by
  simp [firstFail, List.find?_eq_none]

theorem lookup_cons {α : Type} (a : Nat) (v : α) (l : List (Nat × α)) (k : Nat) :
    lookup ((a, v) :: l) k = if a = k then some v else lookup l k := by
  unfold lookup
  by_cases h : a = k <;> simp [h]

theorem lookup_ne_nil {α : Type} {l : List (Nat × α)} {k : Nat} {v : α} (h : lookup l k = some v) : l.isEmpty = false := by
  cases l with
  | nil => cases h
  | cons a t => rfl

/-- removing the bindings of `u` from an association list -/
theorem lookup_filter {α : Type} (l : List (Nat × α)) (u k : Nat) :
    lookup (l.filter (fun e => e.1 != u)) k = if k = u then none else lookup l k := by
  induction l with
  | nil => simp [lookup]
  | cons e t ih =>
    obtain ⟨a, v⟩ := e
    by_cases hau : a = u
    · subst hau
      simp only [List.filter_cons, bne_self_eq_false, Bool.false_eq_true, if_false, ih, lookup_cons]
      split
      · rfl
      · rename_i h; rw [if_neg (fun e => h e.symm)]
    · have : (a != u) = true := by simp [hau]
      simp only [List.filter_cons, this, if_true, lookup_cons, ih]
      split
      · rename_i h; subst h; rw [if_neg hau]
      · rfl

theorem lookup_filter_ne {α : Type} (l : List (Nat × α)) (u k : Nat) (h : k ≠ u) :
    lookup (l.filter (fun e => e.1 != u)) k = lookup l k := by rw [lookup_filter, if_neg h]

theorem lookup_filter_some {α : Type} (l : List (Nat × α)) (u k : Nat) (v : α)
    (h : lookup (l.filter (fun e => e.1 != u)) k = some v) : k ≠ u ∧ lookup l k = some v := by
  rw [lookup_filter] at h
  split at h
  · cases h
  · exact ⟨‹_›, h⟩

theorem length_filter_le {α : Type} (p : α → Bool) (l : List α) : (l.filter p).length ≤ l.length :=
  List.length_filter_le p l

theorem getElem?_lt {α : Type} (l : List α) (i : Nat) (y : α) (h : l[i]? = some y) : i < l.length :=
  (List.getElem?_eq_some_iff.1 h).1

theorem getElem?_set_eq' {α : Type} (l : List α) (i : Nat) (x y : α) (h : l[i]? = some y) :
    (l.set i x)[i]? = some x :=
  List.getElem?_set_self (getElem?_lt l i y h)

/-- reading index `j` of a table after a `set` at an index `i` that exists -/
theorem getElem?_set_of {α : Type} {l : List α} {i j : Nat} {a b x : α} (hi : l[i]? = some a) (hj : l[j]? = some x) :
    (l.set i b)[j]? = some (if i = j then b else x) := by
  rw [List.getElem?_set]
  split
  · rename_i h; subst h; rw [if_pos (getElem?_lt _ _ _ hi)]
  · exact hj

theorem getElem?_set_none {α : Type} {l : List α} {i j : Nat} {b : α} (hj : l[j]? = none) : (l.set i b)[j]? = none := by
  rw [List.getElem?_eq_none_iff] at hj ⊢; rw [List.length_set]; exact hj

theorem getElem?_append_cases {α : Type} (l : List α) (x y : α) (j : Nat) (h : (l ++ [x])[j]? = some y) :
    (j = l.length ∧ y = x) ∨ (j < l.length ∧ l[j]? = some y) := by
  rcases Nat.lt_trichotomy j l.length with hlt | heq | hgt
  · right; refine ⟨hlt, ?_⟩
    rw [List.getElem?_append_left hlt] at h; exact h
  · left; subst heq
    simp at h; exact ⟨rfl, h.symm⟩
  · have : (l ++ [x]).length ≤ j := by simp; omega
    rw [List.getElem?_eq_none this] at h; cases h

end Panel
