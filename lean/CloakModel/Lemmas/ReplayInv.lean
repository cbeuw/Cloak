import CloakModel.Model.ReplayCache

/-! Invariant of the replay memory over arbitrary histories (ported from spike S3, generalised to an
arbitrary eviction predicate / window / key canonicalisation satisfying the two facts the argument
needs). -/
set_option linter.unusedSimpArgs false
set_option linter.unusedVariables false

namespace Replay

theorem used_iff (c : Cache) (k : Bytes) : used c k = true ↔ ∃ e ∈ c, e.1 = k := by
  simp [used, List.any_eq_true]

/-- the state after a presentation, spelled out -/
theorem present_state (keyOf : Bytes → Bytes) (inWin : Int → Int → Bool) (s : St) (p : Pkt) (now : Int) :
    (present keyOf inWin s p now).1 =
      if p.reg = false then s
      else
        let c := (keyOf p.rand, now / 1000000000) :: s.cache.filter (fun e => decide (e.1 ≠ keyOf p.rand))
        if used s.cache (keyOf p.rand) = false ∧ p.ok = true ∧ inWin p.ts now = true then ⟨c, s.acc ++ [(p, now)]⟩ else ⟨c, s.acc⟩ := by
  unfold present register
  by_cases hr : p.reg = false
  · simp [hr]
  · simp only [hr, if_false]
    cases hu : used s.cache (keyOf p.rand) <;> cases ho : p.ok <;> cases hw : inWin p.ts now <;> simp

section
variable (evict : Int → Int → Bool) (keyOf : Bytes → Bytes) (inWin : Int → Int → Bool) (tolS : Int)

/-- what the proof needs from the cleaner: an evicted entry was last sighted more than two tolerances ago -/
def EvictSound : Prop := ∀ t now, evict t now = true → t * 1000000000 + 2 * (tolS * 1000000000) < now
/-- what the proof needs from the window: it is contained in the open interval of ± one tolerance -/
def WindowSound : Prop := ∀ ts now, inWin ts now = true →
  now - tolS * 1000000000 < ts * 1000000000 ∧ ts * 1000000000 < now + tolS * 1000000000

/-- invariant at clock value `c` -/
structure Inv (c : Int) (s : St) : Prop where
  past   : ∀ a ∈ s.acc, a.2 ≤ c ∧ inWin a.1.ts a.2 = true
  fresh  : ∀ a ∈ s.acc, ∀ e ∈ s.cache, e.1 = keyOf a.1.rand → a.2 / 1000000000 ≤ e.2
  alive  : ∀ a ∈ s.acc, used s.cache (keyOf a.1.rand) = true ∨
             (a.2 / 1000000000) * 1000000000 + 2 * (tolS * 1000000000) < c
  once   : s.acc.Pairwise (fun a b => ¬ (keyOf a.1.rand = keyOf b.1.rand ∧ a.1.ts = b.1.ts))

variable {evict keyOf inWin tolS}

theorem Inv.mono {c c' : Int} {s : St} (h : Inv keyOf inWin tolS c s) (hc : c ≤ c') : Inv keyOf inWin tolS c' s :=
  ⟨fun a ha => ⟨Int.le_trans (h.past a ha).1 hc, (h.past a ha).2⟩, h.fresh,
    fun a ha => (h.alive a ha).imp_right fun hx => Int.lt_of_lt_of_le hx hc, h.once⟩

/-- a pass of the cleaner at the invariant's clock: what it evicts had expired -/
theorem Inv.clean {now : Int} {s : St} (hev : EvictSound evict tolS) (h : Inv keyOf inWin tolS now s) :
    Inv keyOf inWin tolS now (clean evict s now) := by
  refine ⟨h.past, fun a ha e he => h.fresh a ha e (List.mem_filter.1 he).1, fun a ha => ?_, h.once⟩
  refine (h.alive a ha).elim (fun hu => ?_) .inr
  obtain ⟨e, he, hk⟩ := (used_iff _ _).1 hu
  cases hh : evict e.2 now
  · exact .inl ((used_iff _ _).2 ⟨e, List.mem_filter.2 ⟨he, by simp [hh]⟩, hk⟩)
  · have := hev e.2 now hh; have := h.fresh a ha e he hk
    right; omega

/-- `registerRandom` of any key at the invariant's clock -/
theorem Inv.register {now : Int} {s : St} (h : Inv keyOf inWin tolS now s) (k : Bytes) :
    Inv keyOf inWin tolS now ⟨(k, now / 1000000000) :: s.cache.filter (fun e => decide (e.1 ≠ k)), s.acc⟩ := by
  refine ⟨h.past, fun a ha e he hk => ?_, fun a ha => ?_, h.once⟩
  · rcases List.mem_cons.1 he with rfl | he
    · have := (h.past a ha).1; simp only; omega
    · exact h.fresh a ha e (List.mem_filter.1 he).1 hk
  · by_cases hk : keyOf a.1.rand = k
    · exact .inl ((used_iff _ _).2 ⟨_, List.mem_cons_self, hk.symm⟩)
    · refine (h.alive a ha).imp_left fun hu => ?_
      obtain ⟨e, he, hke⟩ := (used_iff _ _).1 hu
      exact (used_iff _ _).2 ⟨e, List.mem_cons_of_mem _ (List.mem_filter.2 ⟨he, by simpa [hke] using hk⟩), hke⟩

/-- accepting `p` just after its key was registered: nothing accepted earlier has its key and timestamp, because the
key was not in the cache, so such a presentation expired more than two tolerances ago, and both timestamps were inside
a window of one tolerance -/
theorem Inv.accept {c now : Int} {s : St} {p : Pkt} (hwin : WindowSound inWin tolS) (h : Inv keyOf inWin tolS c s)
    (hc : c ≤ now) (hu : used s.cache (keyOf p.rand) = false) (hw : inWin p.ts now = true) :
    Inv keyOf inWin tolS now
      ⟨(keyOf p.rand, now / 1000000000) :: s.cache.filter (fun e => decide (e.1 ≠ keyOf p.rand)), s.acc ++ [(p, now)]⟩ := by
  have hr := (h.mono hc).register (keyOf p.rand)
  refine ⟨fun a ha => ?_, fun a ha e he hk => ?_, fun a ha => ?_, ?_⟩
  · rcases List.mem_append.1 ha with ha | ha
    · exact hr.past a ha
    · simp at ha; subst ha; exact ⟨Int.le_refl _, hw⟩
  · rcases List.mem_append.1 ha with ha | ha
    · exact hr.fresh a ha e he hk
    · simp at ha; subst ha
      rcases List.mem_cons.1 he with rfl | he
      · exact Int.le_refl _
      · simp at he; exact absurd hk he.2
  · rcases List.mem_append.1 ha with ha | ha
    · exact hr.alive a ha
    · simp at ha; subst ha; exact .inl ((used_iff _ _).2 ⟨_, List.mem_cons_self, rfl⟩)
  · rw [List.pairwise_append]
    refine ⟨h.once, by simp, fun a ha b hb ⟨hk, hts⟩ => ?_⟩
    simp at hb; subst hb
    rcases h.alive a ha with hu' | hx
    · rw [hk, hu] at hu'; exact absurd hu' (by simp)
    · have hw1 := hwin _ _ (h.past a ha).2
      have hw2 := hwin _ _ hw
      simp only at hts; rw [hts] at hw1
      omega

variable (evict keyOf inWin tolS)

theorem inv_step (hev : EvictSound evict tolS) (hwin : WindowSound inWin tolS)
    (c : Int) (s : St) (h : Inv keyOf inWin tolS c s) (e : Ev)
    (hmono : c ≤ clockOf e) : Inv keyOf inWin tolS (clockOf e) (stepEv evict keyOf inWin s e) := by
  cases e with
  | clean now => exact (h.mono hmono).clean hev
  | present p now =>
    simp only [stepEv]
    rw [present_state]
    split
    · exact h.mono hmono
    · split
      · next hacc => exact h.accept hwin hmono hacc.1 hacc.2.2
      · exact (h.mono hmono).register _

theorem inv_run (hev : EvictSound evict tolS) (hwin : WindowSound inWin tolS) :
    ∀ (h : List Ev) (c : Int) (s : St), Inv keyOf inWin tolS c s →
      (h.map clockOf).Pairwise (· ≤ ·) → (∀ e ∈ h, c ≤ clockOf e) →
      ∃ c', Inv keyOf inWin tolS c' (h.foldl (stepEv evict keyOf inWin) s) := by
  intro h
  induction h with
  | nil => intro c s hi _ _; exact ⟨c, hi⟩
  | cons e rest ih =>
    intro c s hi hp hc
    simp only [List.map_cons, List.pairwise_cons] at hp
    have h1 := inv_step evict keyOf inWin tolS hev hwin c s hi e (hc e (by simp))
    simp only [List.foldl_cons]
    apply ih (clockOf e) _ h1 hp.2
    intro e' he'
    exact hp.1 (clockOf e') (List.mem_map.2 ⟨e', he', rfl⟩)

/-- across any history of presentations and clean-ups on a monotone clock, no (registered key,
embedded timestamp) pair is accepted twice -/
theorem once_of_sound (hev : EvictSound evict tolS) (hwin : WindowSound inWin tolS) (h : List Ev)
    (hmono : (h.map clockOf).Pairwise (· ≤ ·)) :
    ((h.foldl (stepEv evict keyOf inWin) init).acc).Pairwise
      (fun a b => ¬ (keyOf a.1.rand = keyOf b.1.rand ∧ a.1.ts = b.1.ts)) := by
  cases h with
  | nil => simp [init]
  | cons e rest =>
    have hinit : Inv keyOf inWin tolS (clockOf e) init := ⟨by simp [init], by simp [init], by simp [init], by simp [init]⟩
    obtain ⟨c', hi⟩ := inv_run evict keyOf inWin tolS hev hwin (e :: rest) (clockOf e) init hinit hmono (by
      intro e' he'
      simp only [List.map_cons, List.pairwise_cons] at hmono
      rcases List.mem_cons.1 he' with rfl | he'
      · exact Int.le_refl _
      · exact hmono.1 _ (List.mem_map.2 ⟨e', he', rfl⟩))
    exact hi.once

/-- every accepted presentation was reached, opened, and was inside the window when presented -/
theorem acc_sound (h : List Ev) (s : St)
    (hs : ∀ a ∈ s.acc, a.1.reg = true ∧ a.1.ok = true ∧ inWin a.1.ts a.2 = true) :
    ∀ a ∈ (h.foldl (stepEv evict keyOf inWin) s).acc, a.1.reg = true ∧ a.1.ok = true ∧ inWin a.1.ts a.2 = true := by
  refine List.foldlRecOn (motive := fun s : St => ∀ a ∈ s.acc, a.1.reg = true ∧ a.1.ok = true ∧ inWin a.1.ts a.2 = true)
    h _ hs fun s hs e _ => ?_
  cases e with
  | clean now => exact hs
  | present p now =>
    simp only [stepEv]; rw [present_state]
    split
    · exact hs
    · next hr =>
      split
      · next hacc =>
        intro a ha
        rcases List.mem_append.1 ha with ha | ha
        · exact hs a ha
        · simp at ha; subst ha; exact ⟨by simpa using hr, hacc.2.1, hacc.2.2⟩
      · exact hs

end
end Replay
