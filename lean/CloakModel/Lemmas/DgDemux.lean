/-! C01/C14 spike: demultiplexing isolates streams — the state of stream `sid` after ANY global
    interleaving of deliveries and reads on all streams equals the state of a single stream fed
    with just its own operations. Generic in the per-stream machine. -/
namespace DgDemux

variable {σ : Type} {Op : Type}

/-- a global event: an operation addressed to one stream; `creates` says whether it may create
    the stream (a delivered frame does, an application read does not) -/
structure GEv (Op : Type) where
  sid : Nat
  op  : Op
  creates : Bool

def gstep (step : σ → Op → σ) (init : σ) (tbl : Nat → Option σ) (e : GEv Op) : Nat → Option σ :=
  fun s =>
    if s = e.sid then
      match tbl s with
      | some st => some (step st e.op)
      | none => if e.creates then some (step init e.op) else none
    else tbl s

def proj (sid : Nat) (evs : List (GEv Op)) : List (GEv Op) := evs.filter (fun e => decide (e.sid = sid))

/-- per-stream run that mirrors creation: `none` until the first creating event -/
def lstep (step : σ → Op → σ) (init : σ) (st : Option σ) (e : GEv Op) : Option σ :=
  match st with
  | some s => some (step s e.op)
  | none => if e.creates then some (step init e.op) else none

theorem isolation (step : σ → Op → σ) (init : σ) (sid : Nat) :
    ∀ (evs : List (GEv Op)) (tbl : Nat → Option σ),
      (evs.foldl (gstep step init) tbl) sid = (proj sid evs).foldl (lstep step init) (tbl sid) := by
  intro evs
  induction evs with
  | nil => intro tbl; rfl
  | cons e rest ih =>
    intro tbl
    simp only [List.foldl_cons, proj, List.filter_cons]
    by_cases h : e.sid = sid
    · simp only [h, decide_true, if_true, List.foldl_cons]
      rw [ih]
      congr 1
      simp only [gstep, lstep, h, if_true]
    · simp only [h, decide_false, Bool.false_eq_true, if_false]
      rw [ih]
      congr 1
      simp only [gstep]
      rw [if_neg (fun hh => h hh.symm)]

/-- how to prove something about a per-stream run: the events before the creating one are lost on it, the creating one is a step
from `init`, every later one a step.  `R evs s`: the events `evs` have made the stream and brought it to `s`. -/
theorem lrun_ind (step : σ → Op → σ) (init : σ) (R : List (GEv Op) → σ → Prop)
    (h0 : ∀ pre e, (∀ x ∈ pre, x.creates = false) → e.creates = true → R (pre ++ [e]) (step init e.op))
    (hs : ∀ evs e s, R evs s → R (evs ++ [e]) (step s e.op)) :
    ∀ evs s, evs.foldl (lstep step init) none = some s → R evs s := by
  have key : ∀ (evs done : List (GEv Op)) (st : Option σ),
      (match st with | none => ∀ x ∈ done, x.creates = false | some s => R done s) →
      (match evs.foldl (lstep step init) st with
        | none => ∀ x ∈ done ++ evs, x.creates = false | some s => R (done ++ evs) s) := by
    intro evs
    induction evs with
    | nil => intro done st h; simpa using h
    | cons e r ih =>
      intro done st h
      rw [List.append_cons]
      refine ih (done ++ [e]) _ ?_
      cases st with
      | some s0 => exact hs done e s0 h
      | none =>
        cases hc : e.creates with
        | true => simp only [lstep, hc, if_true]; exact h0 done e h hc
        | false =>
          simp only [lstep, hc]
          exact fun x hx => (List.mem_append.1 hx).elim (h x) (fun hx => List.mem_singleton.1 hx ▸ hc)
  intro evs s h
  have := key evs [] none (by simp)
  rw [h] at this
  simpa using this

end DgDemux
