import CloakModel.Model.Sender

/-! Invariant of the sender interleaving system (`Model/Sender.lean`) and its preservation by every
step of every thread.  Port of spike S7 (`C13SeqNumbers.lean`) to the richer instruction set
(closed test, CAS, send outcomes, early returns).

`step` is unfolded once, in `step_cases`; everything else reasons about the relation `Step`. -/

namespace SN

/-! ### `step` as a relation -/

/-- thread `t`, whose record is `th`, executes its next instruction.  All early returns (a closed-test or CAS that
finds the stream closed, a failed send, a failed encode) are the one constructor `ret`: `c` is the value of `closed`
afterwards, which differs from the old one only after a connection error. -/
inductive Step (s : State) (t : Nat) (th : Thread) : State → Prop
  | lock {p} : th.prog = .lock :: p → s.lock = none →
      Step s t th { s with lock := some t, thr := s.thr.set t { th with prog := p } }
  | unlock {p} : th.prog = .unlock :: p →
      Step s t th { s with lock := none, thr := s.thr.set t { th with prog := p } }
  | chk {p} : th.prog = .chk :: p → s.closed = false →
      Step s t th { s with thr := s.thr.set t { th with prog := p } }
  | cas {p} : th.prog = .cas :: p → s.closed = false →
      Step s t th { s with closed := true, thr := s.thr.set t { th with prog := p } }
  | enc {cl pl p} : th.prog = .enc cl pl :: p →
      Step s t th { s with clflag := cl || s.clflag,
                           thr := s.thr.set t ⟨p, some ⟨s.seq, cl || s.clflag, pl, t⟩, true⟩ }
  | inc {p f} : th.prog = .inc :: p → th.cur = some f → th.pend = true →
      Step s t th { s with seq := s.seq + 1, enc := s.enc ++ [f], thr := s.thr.set t ⟨p, some f, false⟩ }
  | send {p f} : th.prog = .send .ok :: p → th.cur = some f →
      Step s t th { s with wire := s.wire ++ [f], thr := s.thr.set t ⟨p, none, th.pend⟩ }
  | ret {i p} (c : Bool) : th.prog = i :: p → i ≠ .lock → (c = s.closed ∨ c = true ∧ i = .send .connErr) →
      Step s t th (abort { s with closed := c } t)

theorem step_cases {s s' : State} {t : Nat} (hs : step s t = some s') :
    ∃ th, s.thr[t]? = some th ∧ Step s t th s' := by
  unfold step at hs
  split at hs
  · cases hs
  · rename_i th hth
    refine ⟨th, hth, ?_⟩
    split at hs
    · cases hs
    · split at hs <;> cases hs
      exact .lock ‹_› ‹_›
    · cases hs; exact .unlock ‹_›
    · split at hs <;> cases hs
      · exact .ret s.closed ‹_› (by simp) (.inl rfl)
      · exact .chk ‹_› (Bool.eq_false_iff.2 ‹_›)
    · split at hs <;> cases hs
      · exact .ret s.closed ‹_› (by simp) (.inl rfl)
      · exact .cas ‹_› (Bool.eq_false_iff.2 ‹_›)
    · cases hs; exact .enc ‹_›
    · split at hs <;> cases hs
      exact .inc ‹_› ‹_› ‹_›
    · split at hs
      · cases hs
      · split at hs <;> cases hs
        · exact .send ‹_› ‹_›
        · exact .ret true ‹_› (by simp) (.inr ⟨rfl, rfl⟩)
        · exact .ret s.closed ‹_› (by simp) (.inl rfl)

/-- only the stepping thread's record changes, and it had an instruction left -/
theorem Step.thr {s s' : State} {t : Nat} {th : Thread} (h : Step s t th s') :
    th.prog ≠ [] ∧ ∃ th', s'.thr = s.thr.set t th' := by
  cases h <;> exact ⟨by simp [*], _, rfl⟩

/-- a statement about every thread of `l.set t x`, split into the changed thread and the others -/
theorem forall_thr_set {α : Type} {l : List α} {t : Nat} {th x : α} (hth : l[t]? = some th)
    {P : Nat → α → Prop} (ht : P t x) (ho : ∀ u uh, u ≠ t → l[u]? = some uh → P u uh) :
    ∀ u uh, (l.set t x)[u]? = some uh → P u uh := by
  intro u uh hu
  rw [List.getElem?_set] at hu
  split at hu
  · subst ‹t = u›
    rw [if_pos (List.getElem?_eq_some_iff.1 hth).1] at hu
    cases hu; exact ht
  · exact ho u uh (Ne.symm ‹_›) hu

/-! ### phase bookkeeping -/

theorem advs_append (a b : List Instr) : ∀ ph, advs ph (a ++ b) = (advs ph a).bind (fun q => advs q b) := by
  induction a with
  | nil => intro ph; simp [advs]
  | cons i a ih =>
    intro ph
    simp only [List.cons_append, advs]
    cases adv ph i with
    | none => simp
    | some q => simpa using ih q

/-! ### the invariant -/

/-- what is known about thread `t` -/
def TOK (s : State) (t : Nat) (th : Thread) : Prop :=
  advs ⟨decide (s.lock = some t), th.pend, th.cur.isSome⟩ th.prog = some idle ∧
  (∀ f, th.cur = some f → f.owner = t ∧ (th.pend = true → f.seq = s.seq) ∧
     (th.pend = false → ∃ ini, s.enc = ini ++ [f] ∧ s.wire.Sublist ini))

structure Inv (s : State) : Prop where
  seqLen  : s.seq = s.enc.length
  gapfree : s.enc.map (·.seq) = List.range s.enc.length
  owner   : ∀ f ∈ s.enc, f.owner < s.thr.length
  wire    : s.wire.Sublist s.enc
  lockValid : ∀ u, s.lock = some u → u < s.thr.length
  thr     : ∀ t th, s.thr[t]? = some th → TOK s t th

/-- what the phase typing says of a thread whose next instruction is `i`: everything but `lock` and the closed-test
is executed by the mutex holder only; the encode finds no frame in hand, `inc` and `send` find one -/
theorem TOK.head {s : State} {t : Nat} {th : Thread} {i : Instr} {p : List Instr} (h : TOK s t th)
    (hp : th.prog = i :: p) :
    match i with
    | .lock    => s.lock ≠ some t ∧ th.pend = false ∧ th.cur = none ∧ advs ⟨true, false, false⟩ p = some idle
    | .unlock  => s.lock = some t ∧ th.pend = false ∧ th.cur = none ∧ advs ⟨false, false, false⟩ p = some idle
    | .chk     => th.pend = false ∧ th.cur = none ∧ advs ⟨decide (s.lock = some t), false, false⟩ p = some idle
    | .cas     => s.lock = some t ∧ th.pend = false ∧ th.cur = none ∧ advs ⟨true, false, false⟩ p = some idle
    | .enc _ _ => s.lock = some t ∧ th.pend = false ∧ th.cur = none ∧ advs ⟨true, true, true⟩ p = some idle
    | .inc     => s.lock = some t ∧ th.pend = true ∧ advs ⟨true, false, true⟩ p = some idle
    | .send _  => s.lock = some t ∧ th.pend = false ∧ advs ⟨true, false, false⟩ p = some idle := by
  have h1 := h.1
  rw [hp, advs] at h1
  split at h1
  · rename_i ph' ha
    -- the eight alternatives of `adv`, not the 7 × 8 combinations of instruction and phase
    unfold adv at ha
    -- each alternative equates the phase ⟨lock = t, pend, cur ≠ none⟩ with three literals: the facts claimed
    split at ha <;> cases ha <;> simp_all
  · cases h1

/-- every instruction except `lock` and the closed-test is executed by the mutex holder only -/
theorem TOK.inside {s : State} {t : Nat} {th : Thread} {i : Instr} {p : List Instr} (h : TOK s t th)
    (hp : th.prog = i :: p) (h1 : i ≠ .lock) (h2 : i ≠ .chk) : s.lock = some t := by
  have := h.head hp
  cases i with
  | lock => exact absurd rfl h1
  | chk => exact absurd rfl h2
  | _ => exact this.1

/-- a thread outside the mutex has no frame in hand -/
theorem TOK.outside {s : State} {t : Nat} {th : Thread} (h : TOK s t th) (hl : s.lock ≠ some t) : th.cur = none := by
  have h1 := h.1
  cases hp : th.prog with
  | nil => rw [hp] at h1; cases hc : th.cur <;> simp_all [advs, idle]
  | cons i p =>
    have := h.head hp
    cases i with
    | lock => exact this.2.2.1
    | chk => exact this.2.1
    | _ => exact absurd this.1 hl

/-- **mutual exclusion**: a step of `t` neither gives nor takes the mutex from another thread `u`, and changes none of
the variables the mutex guards while `u` holds it -/
theorem Step.frame {s s' : State} {t u : Nat} {th : Thread} (hst : Step s t th s') (htok : TOK s t th) (hu : u ≠ t) :
    (s'.lock = some u ↔ s.lock = some u) ∧
    (s.lock = some u → s'.seq = s.seq ∧ s'.enc = s.enc ∧ s'.wire = s.wire ∧ s'.closed = s.closed) := by
  cases hst with
  | lock hp hfree => simp [hfree]; omega
  | unlock hp => have := (htok.head hp).1; simp [this]; omega
  | chk hp _ | enc hp => simp
  | cas hp _ | inc hp _ _ | send hp _ => have := htok.inside hp (by simp) (by simp); simp [this]; omega
  | ret c hp _ hc =>
    rcases hc with rfl | ⟨_, rfl⟩
    · exact ⟨Iff.rfl, fun _ => ⟨rfl, rfl, rfl, rfl⟩⟩
    · have := htok.inside hp (by simp) (by simp); simp [abort, this]; omega

theorem tok_other {s s' : State} {u : Nat} {th : Thread}
    (hf : (s'.lock = some u ↔ s.lock = some u) ∧
      (s.lock = some u → s'.seq = s.seq ∧ s'.enc = s.enc ∧ s'.wire = s.wire ∧ s'.closed = s.closed))
    (h : TOK s u th) : TOK s' u th := by
  refine ⟨by rw [decide_eq_decide.2 hf.1]; exact h.1, ?_⟩
  intro f hf'
  by_cases hu : s.lock = some u
  · obtain ⟨e1, e2, e3, _⟩ := hf.2 hu
    rw [e1, e2, e3]; exact h.2 f hf'
  · rw [h.outside hu] at hf'; cases hf'

theorem step_inv (s s' : State) (t : Nat) (h : Inv s) (hs : step s t = some s') : Inv s' := by
  obtain ⟨th, hth, hst⟩ := step_cases hs
  have htok := h.thr t th hth
  have hlt : t < s.thr.length := (List.getElem?_eq_some_iff.1 hth).1
  -- the other threads: by mutual exclusion.  What is left is the stepping thread and the log
  have key : ∀ th', s'.thr = s.thr.set t th' → s'.seq = s'.enc.length →
      s'.enc.map (·.seq) = List.range s'.enc.length → (∀ f ∈ s'.enc, f.owner < s.thr.length) →
      s'.wire.Sublist s'.enc → (∀ u, s'.lock = some u → u < s.thr.length) → TOK s' t th' → Inv s' := by
    intro th' hthr h1 h2 h3 h4 h5 ht
    have hlen : s'.thr.length = s.thr.length := by rw [hthr, List.length_set]
    refine ⟨h1, h2, by rwa [hlen], h4, by rwa [hlen], ?_⟩
    rw [hthr]
    exact forall_thr_set hth ht (fun u uh hu huh => tok_other (hst.frame htok hu) (h.thr u uh huh))
  cases hst with
  | lock hp hfree =>
    obtain ⟨_, hpe, hcur, hrest⟩ := htok.head hp
    exact key _ rfl h.seqLen h.gapfree h.owner h.wire (by simp; omega) ⟨by simpa [hpe, hcur] using hrest, by simp [hcur]⟩
  | unlock hp =>
    obtain ⟨_, hpe, hcur, hrest⟩ := htok.head hp
    exact key _ rfl h.seqLen h.gapfree h.owner h.wire (by simp) ⟨by simpa [hpe, hcur] using hrest, by simp [hcur]⟩
  | chk hp _ =>
    obtain ⟨hpe, hcur, hrest⟩ := htok.head hp
    exact key _ rfl h.seqLen h.gapfree h.owner h.wire h.lockValid ⟨by simpa [hpe, hcur] using hrest, by simp [hcur]⟩
  | cas hp _ =>
    obtain ⟨hl, hpe, hcur, hrest⟩ := htok.head hp
    exact key _ rfl h.seqLen h.gapfree h.owner h.wire h.lockValid ⟨by simpa [hl, hpe, hcur] using hrest, by simp [hcur]⟩
  | enc hp =>
    obtain ⟨hl, _, _, hrest⟩ := htok.head hp
    exact key _ rfl h.seqLen h.gapfree h.owner h.wire h.lockValid ⟨by simpa [hl] using hrest, by simp⟩
  | @inc p f hp hcur hpend =>
    obtain ⟨hl, _, hrest⟩ := htok.head hp
    obtain ⟨hown, hseq, _⟩ := htok.2 f hcur
    refine key _ rfl (by simp [h.seqLen]) ?_ ?_ (h.wire.trans (List.sublist_append_left _ _)) h.lockValid
      ⟨by simpa [hl] using hrest, ?_⟩
    · simp only [List.map_append, List.map_cons, List.map_nil, List.length_append, List.length_cons,
        List.length_nil]
      rw [List.range_succ, h.gapfree, hseq hpend, h.seqLen]
    · intro g hg
      rcases List.mem_append.1 hg with hg | hg
      · exact h.owner g hg
      · simp at hg; subst hg; rw [hown]; exact hlt
    · intro g hg
      simp at hg; subst hg
      exact ⟨hown, by simp, fun _ => ⟨s.enc, rfl, h.wire⟩⟩
  | @send p f hp hcur =>
    obtain ⟨hl, hpe, hrest⟩ := htok.head hp
    obtain ⟨ini, hini, hsub⟩ := (htok.2 f hcur).2.2 hpe
    refine key _ rfl h.seqLen h.gapfree h.owner ?_ h.lockValid ⟨by simpa [hl, hpe] using hrest, by simp⟩
    show (s.wire ++ [f]).Sublist s.enc
    rw [hini]; exact hsub.append (List.Sublist.refl _)
  | ret c hp _ _ =>
    refine key _ rfl h.seqLen h.gapfree h.owner h.wire h.lockValid ⟨?_, by simp⟩
    show advs ⟨decide (s.lock = some t), false, false⟩ (if s.lock = some t then [.unlock] else []) = some idle
    by_cases hl : s.lock = some t <;> simp [hl, advs, adv, idle]

/-- schedule induction: what every enabled step preserves, given `Inv`, holds at the end of every schedule -/
theorem run_induct {P : State → Prop} (hstep : ∀ s s' t, Inv s → P s → step s t = some s' → P s') :
    ∀ (sched : List Nat) (s : State), Inv s → P s → Inv (runSched s sched) ∧ P (runSched s sched) := by
  intro sched
  induction sched with
  | nil => intro s h hp; exact ⟨h, hp⟩
  | cons t ts ih =>
    intro s h hp
    simp only [runSched]
    split
    · rename_i s' hs; exact ih s' (step_inv s s' t h hs) (hstep s s' t h hp hs)
    · exact ih s h hp

theorem run_inv (sched : List Nat) (s : State) (h : Inv s) : Inv (runSched s sched) :=
  (run_induct (P := fun _ => True) (fun _ _ _ _ _ _ => trivial) sched s h trivial).1

theorem init_inv (progs : List (List Instr)) (hwf : ∀ p ∈ progs, wf p) : Inv (init progs) := by
  refine ⟨rfl, rfl, by intro f hf; simp [init] at hf, List.Sublist.refl _, by intro u hu; simp [init] at hu, ?_⟩
  intro t th hth
  simp only [init, List.getElem?_map, Option.map_eq_some_iff] at hth
  obtain ⟨p, hp, rfl⟩ := hth
  exact ⟨by simpa [init, wf, idle] using hwf p (List.mem_of_getElem? hp), by simp⟩

theorem spawn_inv (s : State) (p : List Instr) (h : Inv s) (hp : wf p) : Inv (spawn s p) := by
  refine ⟨h.seqLen, h.gapfree, ?_, h.wire, ?_, ?_⟩
  · intro f hf
    have := h.owner f hf
    simp [spawn]; omega
  · intro u hu
    have := h.lockValid u hu
    simp [spawn]; omega
  · intro t th hth
    simp only [spawn, List.getElem?_append] at hth
    split at hth
    · exact h.thr t th hth
    · rename_i hlt
      cases h0 : t - s.thr.length with
      | succ k => simp [h0] at hth
      | zero =>
        simp [h0] at hth; subst hth
        have hnl : decide (s.lock = some t) = false := by
          simp; intro hh; have := h.lockValid _ hh; omega
        exact ⟨by show advs ⟨decide (s.lock = some t), false, false⟩ p = some idle; rw [hnl]; exact hp, by simp⟩

end SN
