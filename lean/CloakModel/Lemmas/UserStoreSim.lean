import CloakModel.Lemmas.UserStore
import CloakModel.Lemmas.GenBridge

/-! C18: each concrete operation, under the repaired facts and on a well-formed store, is the
abstract operation of `US.Spec` on the abstracted store, and keeps the store well-formed. -/
set_option linter.unusedSimpArgs false
set_option linter.unusedVariables false

namespace US
open GoInt

/-- the integers of a decoded request body fit their Go types (`*int32` / `*int64`) -/
def InRange (i : Info) : Prop :=
  (∀ v, i.cap = some v → In32 v) ∧ (∀ v, i.upRate = some v → In64 v) ∧ (∀ v, i.downRate = some v → In64 v) ∧
  (∀ v, i.upCredit = some v → In64 v) ∧ (∀ v, i.downCredit = some v → In64 v) ∧ (∀ v, i.expiry = some v → In64 v)

def Op.WF : Op → Prop
  | .post _ (.ok i) => InRange i
  | _ => True

/-- what key `k` holds after `putField b k o`, given what it held before -/
def putVal (k : Key) : Option Int → Option Bytes → Option Bytes
  | some v, _ => some (enc k v)
  | none, old => old

theorem putField_apply (b : Bucket) (k k' : Key) (o : Option Int) :
    putField b k o k' = if k' = k then putVal k o (b k) else b k' := by
  cases o with
  | none => by_cases h : k' = k <;> simp [putField, putVal, h]
  | some v => rfl

theorem set_apply (b : Bucket) (k k' : Key) (v : Bytes) : (b.set k v) k' = if k' = k then some v else b k' := rfl

theorem WFB_putField (b : Bucket) (h : WFB b) (k : Key) (o : Option Int) : WFB (putField b k o) := by
  cases o with
  | none => exact h
  | some v => exact WFB_set b h k v

theorem WFB_writeBucket (b : Bucket) (h : WFB b) (i : Info) : WFB (writeBucket b i) := by
  unfold writeBucket
  repeat apply WFB_putField
  exact h

theorem recOf_empty : recOf Bucket.empty = Rec.zero := by
  simp [recOf, Bucket.empty, valU_none, Rec.zero, toS32, toS64]

theorem recOf_bucketOrNew (x : Option Bucket) : recOf (bucketOrNew x) = recOrNew (x.map recOf) := by
  cases x <;> simp [bucketOrNew, recOrNew, recOf_empty]

theorem WFB_bucketOrNew (x : Option Bucket) (h : ∀ b, x = some b → WFB b) : WFB (bucketOrNew x) := by
  cases x with
  | none => exact WFB_empty
  | some b => exact h b rfl

theorem field64 (k : Key) (hk : k ≠ .cap) (o : Option Int) (old : Option Bytes) (h : ∀ v, o = some v → In64 v) :
    toS64 (valU k (putVal k o old)) = orKeep o (toS64 (valU k old)) := by
  cases o with
  | none => simp [orKeep, putVal]
  | some v =>
    simp only [orKeep, putVal, valU_enc]
    cases k <;> first | exact absurd rfl hk | exact toS64_toU64 v (h v rfl)

theorem field32 (o : Option Int) (old : Option Bytes) (h : ∀ v, o = some v → In32 v) :
    toS32 (valU .cap (putVal .cap o old)) = orKeep o (toS32 (valU .cap old)) := by
  cases o with
  | none => simp [orKeep, putVal]
  | some v => simp only [orKeep, putVal, valU_enc]; exact toS32_toU32 v (h v rfl)

theorem recOf_writeBucket (b : Bucket) (i : Info) (hi : InRange i) : recOf (writeBucket b i) = (recOf b).update i := by
  obtain ⟨h1, h2, h3, h4, h5, h6⟩ := hi
  simp only [recOf, writeBucket, putField_apply, reduceCtorEq, if_false, if_true, Rec.update,
    field32 _ _ h1, field64 .upRate (by decide) _ _ h2, field64 .downRate (by decide) _ _ h3,
    field64 .upCredit (by decide) _ _ h4, field64 .downCredit (by decide) _ _ h5, field64 .expiry (by decide) _ _ h6]

theorem abs_lookup (s : Store) (uid : Bytes) : (abs s).lookup uid = (s.lookup uid).map recOf :=
  AL.lookup_mapv recOf s uid

/-- the status codes the handlers use (from `Gen.Store`) are the documented ones -/
theorem gen_status :
    Gen.Store.postSt_empty = 400 ∧ Gen.Store.postSt_b64 = 400 ∧ Gen.Store.postSt_json = 400 ∧
    Gen.Store.postSt_mismatch = 400 ∧ Gen.Store.postSt_mgr = 500 ∧ Gen.Store.postSt_ok = 201 ∧
    Gen.Store.getSt_empty = 400 ∧ Gen.Store.getSt_b64 = 400 ∧ Gen.Store.getSt_notfound = 404 ∧
    Gen.Store.delSt_empty = 400 ∧ Gen.Store.delSt_b64 = 400 ∧ Gen.Store.delSt_mgr = 500 ∧ Gen.Store.delSt_ok = 200 := by
  and_intros <;> rfl

/-! ### POST -/

theorem post_sim (F : Facts) (hF : Good F) (s : Store) (hs : WFS s) (u : Url) (b : Body)
    (hb : ∀ i, b = .ok i → InRange i) :
    abs (postHlr F s u b).1 = (Spec.post (abs s) u b).1 ∧ (postHlr F s u b).2 = (Spec.post (abs s) u b).2 ∧
    WFS (postHlr F s u b).1 := by
  cases u with
  | empty => cases b <;> simp [postHlr, Spec.post, gen_status, hs]
  | bad => cases b <;> simp [postHlr, Spec.post, gen_status, hs]
  | ok uid =>
    cases b with
    | bad => simp [postHlr, Spec.post, gen_status, hs]
    | ok i =>
      have hi := hb i rfl
      by_cases hm : uid = i.uid
      · subst hm
        by_cases he : i.uid = []
        · simp [postHlr, Spec.post, writeUserInfo, he, firstStatus, gen_status, hs]
        · simp only [postHlr, Spec.post, writeUserInfo, he, firstStatus, gen_status, ne_eq, not_true_eq_false, false_and,
            if_false]
          refine ⟨?_, trivial, ?_⟩
          · show abs (s.set i.uid _) = _
            unfold abs
            rw [← AL.set_mapv, recOf_writeBucket _ _ hi, recOf_bucketOrNew]
            show _ = (AL.mapv recOf s).set i.uid ((recOrNew ((abs s).lookup i.uid)).update i)
            rw [abs_lookup]
          · apply WFS_set _ hs
            apply WFB_writeBucket
            apply WFB_bucketOrNew
            intro b hb'; exact WFS_lookup s hs _ _ hb'
      · simp [postHlr, Spec.post, hm, hF.ret, gen_status, hs]

/-! ### GET / list / DELETE -/

theorem getUserInfo_ok (F : Facts) (hF : Good F) (s : Store) (hs : WFS s) (uid : Bytes) :
    getUserInfo F s uid = .ok ((abs s).lookup uid) := by
  unfold getUserInfo
  rw [abs_lookup]
  cases h : s.lookup uid with
  | none => rfl
  | some b => simp [readRec_ok F hF b (WFS_lookup s hs uid b h), bind, Except.bind, pure, Except.pure]

theorem get_sim (F : Facts) (hF : Good F) (s : Store) (hs : WFS s) (u : Url) :
    getHlr F s u = .ok (Spec.get (abs s) u) := by
  cases u with
  | empty =>
    by_cases hr : Gen.Store.getRet_empty = true
    · simp [getHlr, hr, Spec.get, gen_status]
    · simp [getHlr, hr, getUserInfo_ok F hF s hs, Spec.get, gen_status, bind, Except.bind, pure, Except.pure]
  | bad => simp [getHlr, Spec.get, gen_status]
  | ok uid =>
    simp only [getHlr, getUserInfo_ok F hF s hs, Spec.get, bind, Except.bind]
    cases (abs s).lookup uid <;> simp [gen_status, pure, Except.pure]

theorem list_sim (F : Facts) (hF : Good F) (s : Store) (hs : WFS s) : listAllUsers F s = .ok (abs s) := by
  induction s with
  | nil => rfl
  | cons p r ih =>
    obtain ⟨uid, b⟩ := p
    have hb : WFB b := hs (uid, b) (by simp)
    have hr : WFS r := fun q hq => hs q (List.mem_cons_of_mem _ hq)
    simp [listAllUsers, readRec_ok F hF b hb, ih hr, bind, Except.bind, pure, Except.pure, abs, AL.mapv]

theorem del_sim (s : Store) (hs : WFS s) (u : Url) :
    abs (delHlr s u).1 = (Spec.del (abs s) u).1 ∧ (delHlr s u).2 = (Spec.del (abs s) u).2 ∧ WFS (delHlr s u).1 := by
  cases u with
  | empty => simp [delHlr, Spec.del, gen_status, hs]
  | bad => simp [delHlr, Spec.del, gen_status, hs]
  | ok uid =>
    simp only [delHlr, deleteUser, Spec.del, abs_lookup]
    cases h : s.lookup uid with
    | none => simp [gen_status, hs]
    | some b =>
      simp only [Option.map_some, gen_status]
      refine ⟨?_, trivial, WFS_erase s hs uid⟩
      unfold abs; rw [AL.erase_mapv]

/-! ### authenticate / authorise / activate -/

theorem gen_auth_cmp :
    (∀ uc, Gen.Store.authNoUp uc = true ↔ uc ≤ 0) ∧ (∀ dc, Gen.Store.authNoDown dc = true ↔ dc ≤ 0) ∧
    (∀ e now, Gen.Store.authExpired e now = true ↔ e < now) := by
  unfold Gen.Store.authNoUp Gen.Store.authNoDown Gen.Store.authExpired
  refine ⟨?_, ?_, ?_⟩ <;> intros <;> gen_bool

theorem gen_authz_cmp :
    (∀ uc, Gen.Store.authzNoUp uc = true ↔ uc ≤ 0) ∧ (∀ dc, Gen.Store.authzNoDown dc = true ↔ dc ≤ 0) ∧
    (∀ e now, Gen.Store.authzExpired e now = true ↔ e < now) ∧
    (∀ n cap, Gen.Store.authzCapReached n cap = true ↔ n ≥ cap) := by
  unfold Gen.Store.authzNoUp Gen.Store.authzNoDown Gen.Store.authzExpired Gen.Store.authzCapReached
  refine ⟨?_, ?_, ?_, ?_⟩ <;> intros <;> gen_bool

theorem auth_sim (F : Facts) (hF : Good F) (s : Store) (hs : WFS s) (uid : Bytes) (now : Int) :
    authenticateUser F s uid now = .ok (Spec.auth (abs s) uid now) := by
  unfold authenticateUser Spec.auth
  rw [abs_lookup]
  cases h : s.lookup uid with
  | none => rfl
  | some b =>
    simp only [decs_ok F hF b (WFS_lookup s hs uid b h), gen_auth_cmp, bind, Except.bind, pure, Except.pure,
      Option.map_some, Spec.authRec, apply_ite Except.ok]
    rfl

theorem authz_sim (F : Facts) (hF : Good F) (s : Store) (hs : WFS s) (uid : Bytes) (n now : Int) :
    authoriseNewSession F s uid n now = .ok (Spec.authz (abs s) uid n now) := by
  unfold authoriseNewSession Spec.authz
  rw [abs_lookup]
  cases h : s.lookup (pad16 uid) with
  | none => rfl
  | some b =>
    have hb := WFS_lookup s hs _ b h
    -- the specification reads the cap back from the signed field: `toU32 (toS32 c) = c` for the stored `c < 2³²`
    have hcap : toU32 (recOf b).cap = valU .cap (b .cap) := toU32_toS32 _ (valU_cap_lt b hb)
    simp only [decs_ok F hF b hb, gen_authz_cmp, bind, Except.bind, pure, Except.pure, Option.map_some, hcap,
      apply_ite Except.ok]
    rfl

theorem getUser_sim (F : Facts) (hF : Good F) (s : Store) (hs : WFS s) (uid : Bytes) (now : Int) :
    getUser F s uid now = .ok (Spec.getUser (abs s) uid now) := by
  unfold getUser Spec.getUser
  rw [auth_sim F hF s hs]
  cases Spec.auth (abs s) uid now with
  | ok up down =>
    -- refused exactly when `makeValve` would panic
    simp only [bind, Except.bind, hF.valve, makeValve]
    split <;> rfl
  | _ => rfl

/-! ### upload -/

theorem gen_upload :
    (∀ old usage, Gen.Store.uploadNewUp old usage = old - usage) ∧
    (∀ old usage, Gen.Store.uploadNewDown old usage = old - usage) ∧
    (∀ new, Gen.Store.uploadUpExhausted new = true ↔ new ≤ 0) ∧
    (∀ new, Gen.Store.uploadDownExhausted new = true ↔ new ≤ 0) ∧
    (∀ now expiry, Gen.Store.uploadExpired now expiry = true ↔ now > expiry) := by
  unfold Gen.Store.uploadNewUp Gen.Store.uploadNewDown Gen.Store.uploadUpExhausted Gen.Store.uploadDownExhausted
    Gen.Store.uploadExpired
  refine ⟨?_, ?_, ?_, ?_, ?_⟩ <;> intros <;> gen_bool

theorem uploadOne_sim (F : Facts) (hF : Good F) (now : Int) (acc : Store × List (Bytes × Msg)) (hs : WFS acc.1) (u : Upd) :
    ∃ acc', uploadOne F now acc u = .ok acc' ∧ WFS acc'.1 ∧
      (abs acc'.1, acc'.2) = Spec.uploadOne now (abs acc.1, acc.2) u := by
  unfold uploadOne Spec.uploadOne
  simp only [abs_lookup]
  cases h : acc.1.lookup u.uid with
  | none => exact ⟨_, rfl, hs, rfl⟩
  | some b =>
    have hb := WFS_lookup acc.1 hs _ b h
    -- the two puts do not touch the keys read after them
    simp only [set_apply, reduceCtorEq, if_false, decs_ok F hF b hb, gen_upload, bind, Except.bind, pure, Except.pure,
      Option.map_some]
    refine ⟨_, rfl, WFS_set _ hs _ _ (WFB_set _ (WFB_set _ hb _ _) _ _), ?_⟩
    simp only [abs, ← AL.set_mapv]
    simp only [recOf, set_apply, reduceCtorEq, if_false, if_true, valU_enc, toS64_toU64 _ (wrap64_in _)]
    rfl

theorem uploadLoop_sim (F : Facts) (hF : Good F) (now : Int) (ups : List Upd) :
    ∀ (acc : Store × List (Bytes × Msg)), WFS acc.1 →
    ∃ acc', uploadLoop F now acc ups = .ok acc' ∧ WFS acc'.1 ∧
      (abs acc'.1, acc'.2) = ups.foldl (Spec.uploadOne now) (abs acc.1, acc.2) := by
  induction ups with
  | nil => intro acc hs; exact ⟨acc, rfl, hs, rfl⟩
  | cons u us ih =>
    intro acc hs
    obtain ⟨a1, h1, w1, e1⟩ := uploadOne_sim F hF now acc hs u
    obtain ⟨a2, h2, w2, e2⟩ := ih a1 w1
    refine ⟨a2, ?_, w2, ?_⟩
    · simp [uploadLoop, h1, h2, bind, Except.bind]
    · rw [e2, e1]; rfl

theorem upload_sim (F : Facts) (hF : Good F) (s : Store) (hs : WFS s) (ups : List Upd) (now : Int) :
    ∃ s' r, uploadStatus F s ups now = (s', .ok r) ∧ WFS s' ∧ (abs s', r) = Spec.upload (abs s) ups now := by
  obtain ⟨a, h, w, e⟩ := uploadLoop_sim F hF now ups (s, []) hs
  refine ⟨a.1, a.2, ?_, w, e⟩
  simp [uploadStatus, h]

/-! ### one step, and whole runs -/

theorem step_sim (F : Facts) (hF : Good F) (s : Store) (hs : WFS s) (op : Op) (hop : op.WF) :
    abs (step F s op).1 = (Spec.step (abs s) op).1 ∧ (step F s op).2 = (Spec.step (abs s) op).2 ∧ WFS (step F s op).1 := by
  cases op with
  | post u b =>
    have hb : ∀ i, b = .ok i → InRange i := by
      intro i hi; subst hi; exact hop
    obtain ⟨h1, h2, h3⟩ := post_sim F hF s hs u b hb
    exact ⟨h1, by simp [step, Spec.step, h2], h3⟩
  | get u => simp [step, Spec.step, get_sim F hF s hs u, hs]
  | list => simp [step, Spec.step, list_sim F hF s hs, hs]
  | del u =>
    obtain ⟨h1, h2, h3⟩ := del_sim s hs u
    exact ⟨h1, by simp [step, Spec.step, h2], h3⟩
  | auth uid now => simp [step, Spec.step, auth_sim F hF s hs, hs]
  | authz uid n now => simp [step, Spec.step, authz_sim F hF s hs, hs]
  | upload ups now =>
    obtain ⟨s', r, h, w, e⟩ := upload_sim F hF s hs ups now
    simp only [step, Spec.step, h]
    have e1 : abs s' = (Spec.upload (abs s) ups now).1 := by rw [← e]
    have e2 : r = (Spec.upload (abs s) ups now).2 := by rw [← e]
    exact ⟨e1, by rw [e2], w⟩
  | getUser uid now => simp [step, Spec.step, getUser_sim F hF s hs, hs]
  | reopen => simp [step, Spec.step, hs]

theorem run_sim (F : Facts) (hF : Good F) (ops : List Op) : ∀ (s : Store), WFS s → (∀ op ∈ ops, op.WF) →
    abs (run F s ops).1 = (Spec.run (abs s) ops).1 ∧ (run F s ops).2 = (Spec.run (abs s) ops).2 ∧ WFS (run F s ops).1 := by
  induction ops with
  | nil => intro s hs _; exact ⟨rfl, rfl, hs⟩
  | cons op ops ih =>
    intro s hs hw
    obtain ⟨h1, h2, h3⟩ := step_sim F hF s hs op (hw op (by simp))
    obtain ⟨i1, i2, i3⟩ := ih (step F s op).1 h3 (fun o ho => hw o (List.mem_cons_of_mem _ ho))
    simp only [run, Spec.run]
    rw [← h1]
    exact ⟨i1, by rw [i2, h2], i3⟩

end US
