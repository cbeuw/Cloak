import CloakModel.Model.Acct

/-! Conservation and non-negativity invariants of the accounting model (ported from spike S11 `C16Accounting.lean`,
extended with both directions, retired-record valves, deleted users and admin credit changes). -/
namespace Acct

/-- OBLIGATION-level bridging: the arithmetic of `UploadStatus` is `old − usage` in both directions -/
theorem gen_upload_arith (d : Bool) (old usage : Int) : newCredit d old usage = old - usage := by
  unfold newCredit Gen.Acct.uploadNewDown Gen.Acct.uploadNewUp
  split <;> omega

/-- conservation, per user and direction -/
def Inv (s : St) : Prop :=
  ∀ k, s.carried k = (s.granted k - s.stored k) + fsum s.inflight k + s.queue k + s.pending k + s.valve k + s.old k + s.dropped k

theorem fsum_append (l : List (List U × Fn)) (e : List U × Fn) (k : K) : fsum (l ++ [e]) k = fsum l k + e.2 k := by
  simp [fsum, List.sum_append]

theorem fsum_cons (l : List (List U × Fn)) (e : List U × Fn) (k : K) : fsum (e :: l) k = e.2 k + fsum l k := by
  simp [fsum]

/- A guard of a step is split while the goal still mentions the new state once (`Inv (if … then … else …)`), and the key
`x` is fixed after that: the law written out for `x` holds nine copies of the conditional state. -/
theorem step_inv (s : St) (e : Ev) (h : Inv s) : Inv (step s e) := by
  cases e with
  | swapOne u | enqueueOne u | retire u | put u _ _ _ | delete u =>
    -- these touch the keys of `u` only, where they move an amount from one term of the law to another
    intro x; have hx := h x
    simp only [step]; by_cases hxu : x.1 = u
    · simp only [hxu, if_true] at hx ⊢; rw [hx]; omega
    · simp only [hxu, if_false]; exact hx
  | swapOld u up down =>
    simp only [step]
    split
    · intro x; have hx := h x
      simp only; by_cases hxu : x.1 = u
      · simp only [hxu, if_true] at hx ⊢; rw [hx]; omega
      · simp only [hxu, if_false]; exact hx
    · exact h
  | traffic u d n =>
    simp only [step]
    split
    · exact h
    · split <;> (intro x; have hx := h x; simp only; by_cases hxu : x = (u, d)
                 · simp only [hxu, if_true] at hx ⊢; rw [hx]; omega
                 · simp only [hxu, if_false]; exact hx)
  | stray u d n =>
    simp only [step]
    split
    · exact h
    · intro x; have hx := h x; simp only; by_cases hxu : x = (u, d)
      · simp only [hxu, if_true] at hx ⊢; rw [hx]; omega
      · simp only [hxu, if_false]; exact hx
  | collectAll =>
    intro x; have hx := h x
    simp only [step]
    by_cases hxu : x.1 ∈ s.actives
    · simp only [hxu, if_true]; rw [hx]; omega
    · simp only [hxu, if_false]; exact hx
  | snapshot => intro x; simp only [step]; rw [fsum_append, h x]; simp only; omega
  | upload now =>
    simp only [step]
    split
    · exact h
    · rename_i keys f rest hfl
      intro x; have hx := h x
      rw [hfl, fsum_cons] at hx
      simp only at hx ⊢
      rw [hx]
      split
      · rw [gen_upload_arith]; omega
      · omega
  | activate u now =>
    simp only [step]
    split
    · exact h
    · split <;> exact h
  | openSess u => simp only [step]; split <;> exact h
  | closeSess u | closeAllSess u => exact h

theorem run_inv (evs : List Ev) (s : St) (h : Inv s) : Inv (run s evs) :=
  List.foldlRecOn (motive := Inv) evs step h (fun s hs e _ => step_inv s e hs)

/-- every term of the conservation law stays non-negative -/
def NonNeg (s : St) : Prop :=
  ∀ k, 0 ≤ s.valve k ∧ 0 ≤ s.old k ∧ 0 ≤ s.pending k ∧ 0 ≤ s.queue k ∧ 0 ≤ s.dropped k ∧ (∀ e ∈ s.inflight, 0 ≤ e.2 k)

theorem fsum_nonneg (l : List (List U × Fn)) (k : K) (h : ∀ e ∈ l, 0 ≤ e.2 k) : 0 ≤ fsum l k := by
  induction l with
  | nil => simp [fsum]
  | cons f rest ih =>
    rw [fsum_cons]
    have := h f (by simp)
    have := ih (fun g hg => h g (by simp [hg]))
    omega

theorem step_nonneg (s : St) (e : Ev) (h : NonNeg s) : NonNeg (step s e) := by
  cases e with
  | swapOne u | enqueueOne u | retire u =>
    -- on the keys of `u` a term becomes 0 and another the sum of the two
    intro x; obtain ⟨h1, h2, h3, h4, h5, h6⟩ := h x
    simp only [step]; by_cases hxu : x.1 = u
    · simp only [hxu, if_true]; refine ⟨?_, ?_, ?_, ?_, h5, h6⟩ <;> omega
    · simp only [hxu, if_false]; exact ⟨h1, h2, h3, h4, h5, h6⟩
  | traffic u d n =>
    simp only [step]
    split
    · exact h
    · split <;> (intro x; obtain ⟨h1, h2, h3, h4, h5, h6⟩ := h x; simp only; by_cases hxu : x = (u, d)
                 · subst hxu; simp only [if_true]; exact ⟨by omega, by omega, h3, h4, h5, h6⟩
                 · simp only [hxu, if_false]; exact ⟨h1, h2, h3, h4, h5, h6⟩)
  | stray u d n =>
    simp only [step]
    split
    · exact h
    · intro x; obtain ⟨h1, h2, h3, h4, h5, h6⟩ := h x; simp only; by_cases hxu : x = (u, d)
      · subst hxu; simp only [if_true]; exact ⟨h1, by omega, h3, h4, h5, h6⟩
      · simp only [hxu, if_false]; exact ⟨h1, h2, h3, h4, h5, h6⟩
  | collectAll =>
    intro x; obtain ⟨h1, h2, h3, h4, h5, h6⟩ := h x
    simp only [step]
    by_cases hxu : x.1 ∈ s.actives
    · simp only [hxu, if_true]; exact ⟨Int.le_refl 0, h2, h3, by omega, h5, h6⟩
    · simp only [hxu, if_false]; exact ⟨h1, h2, h3, h4, h5, h6⟩
  | swapOld u up down =>
    simp only [step]
    split
    · rename_i hg
      intro x; obtain ⟨h1, h2, h3, h4, h5, h6⟩ := h x
      simp only; by_cases hxu : x.1 = u
      · obtain ⟨xu, xd⟩ := x
        simp only at hxu; subst hxu
        simp only [if_true]
        cases xd
        · simp only [Bool.false_eq_true, if_false]; exact ⟨h1, by omega, by omega, h4, h5, h6⟩
        · simp only [if_true]; exact ⟨h1, by omega, by omega, h4, h5, h6⟩
      · simp only [hxu, if_false]; exact ⟨h1, h2, h3, h4, h5, h6⟩
    · exact h
  | snapshot =>
    intro x; obtain ⟨h1, h2, h3, h4, h5, h6⟩ := h x
    simp only [step]
    refine ⟨h1, h2, h3, Int.le_refl 0, h5, ?_⟩
    intro f hf
    rcases List.mem_append.1 hf with hf | hf
    · exact h6 f hf
    · simp at hf; subst hf; exact h4
  | upload now =>
    simp only [step]
    split
    · exact h
    · rename_i keys f rest hfl
      intro x; obtain ⟨h1, h2, h3, h4, h5, h6⟩ := h x
      have hf : 0 ≤ f x := h6 (keys, f) (by rw [hfl]; simp)
      refine ⟨h1, h2, h3, h4, ?_, fun g hg => h6 g (by rw [hfl]; simp [hg])⟩
      simp only
      split <;> omega
  | activate u now =>
    simp only [step]
    split
    · exact h
    · split <;> exact h
  | openSess u => simp only [step]; split <;> exact h
  | closeSess u | closeAllSess u | put u _ _ _ | delete u => exact h

theorem run_nonneg (evs : List Ev) (s : St) (h : NonNeg s) : NonNeg (run s evs) :=
  List.foldlRecOn (motive := NonNeg) evs step h (fun s hs e _ => step_nonneg s e hs)

theorem inv_init : Inv init := by intro k; simp [init, fsum]
theorem nonneg_init : NonNeg init := by intro k; simp [init]

end Acct
