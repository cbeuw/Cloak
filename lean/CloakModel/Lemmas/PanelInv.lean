import CloakModel.Lemmas.PanelStep

/-! The single-record invariant of the REPAIRED bookkeeping design (C17, second half): a record that is no
longer the one `activeUsers` holds for its uid has been retired and emptied, and a retired record never gets a
session again. Kept by every event of `Panel.step (orphanRepaired a b)` (`inv_step`, from `step_effect`). -/
namespace Panel

structure Inv (s : St) : Prop where
  pendingDone : ∀ (rid : Nat), rid ∈ s.pendingDel →
    ∃ r : Rec, s.recs[rid]? = some r ∧ r.retired = true ∧ r.sessions = []
  unboundDone : ∀ (rid : Nat) (r : Rec), s.recs[rid]? = some r → lookup s.active r.uid ≠ some rid →
    r.retired = true ∧ r.sessions = []
  closingRetired : ∀ (rid : Nat), rid ∈ s.pendingClose → ∃ r : Rec, s.recs[rid]? = some r ∧ r.retired = true
  boundWf : ∀ (u rid : Nat), lookup s.active u = some rid → ∃ r : Rec, s.recs[rid]? = some r ∧ r.uid = u

theorem inv_init : Inv init :=
  ⟨by intro rid h; simp [init] at h, by intro rid r h; simp [init] at h,
   by intro rid h; simp [init] at h, by intro u rid h; simp [init, lookup] at h⟩

theorem inv_single {s : St} (h : Inv s) : SingleRecord s := by
  intro rid r hr hne
  apply Classical.byContradiction
  intro hl
  exact hne (h.unboundDone rid r hr hl).2

/-- an `activeUsers` entry for `u` points to a record of `u`, on every tree -/
theorem boundWf_step (cfg : Cfg) (s : St) (e : Ev)
    (h : ∀ (u rid : Nat), lookup s.active u = some rid → ∃ r : Rec, s.recs[rid]? = some r ∧ r.uid = u) :
    ∀ (u rid : Nat), lookup (step cfg s e).active u = some rid → ∃ r : Rec, (step cfg s e).recs[rid]? = some r ∧ r.uid = u := by
  intro u rid hl
  have eff := step_effect cfg s e
  rcases eff.bound u rid hl with hl' | ⟨b, hnew⟩
  · obtain ⟨r, hr, hu⟩ := h u rid hl'
    obtain ⟨r', hr', hs⟩ := eff.old rid r hr
    exact ⟨r', hr', hs.uid.trans hu⟩
  · exact ⟨_, hnew, rfl⟩

theorem inv_step {a b : Bool} {s : St} (h : Inv s) (e : Ev) : Inv (step (orphanRepaired a b) s e) := by
  have eff := step_effect (orphanRepaired a b) s e
  -- `GetSession` turns a retired record down, so a record that is retired and empty stays so
  have keep : ∀ {j r r'}, RecStep (orphanRepaired a b) s j r e r' → r.retired = true → r.sessions = [] →
      r'.retired = true ∧ r'.sessions = [] := by
    intro j r r' hs hr he
    refine ⟨hs.retired hr, ?_⟩
    cases hs with
    | add sid key now _ hnr => rw [hnr rfl] at hr; cases hr
    | _ => simp [Rec.close_sessions, he]
  refine ⟨fun rid hp => ?_, fun rid r' hx hl => ?_, fun rid hp => ?_, boundWf_step _ s e h.boundWf⟩
  · rcases eff.deleting rid hp with hp' | ⟨hpc, r, hr, hr'⟩
    · obtain ⟨r, hr, hret, hemp⟩ := h.pendingDone rid hp'
      obtain ⟨r', hr', hs⟩ := eff.old rid r hr
      exact ⟨r', hr', keep hs hret hemp⟩
    · obtain ⟨r0, hr0, hret⟩ := h.closingRetired rid hpc
      rw [hr] at hr0; cases hr0
      exact ⟨_, hr', hret, rfl⟩
  · rcases eff.origin hx with ⟨r, hr, hs⟩ | ⟨_, _, hb⟩
    · by_cases hb : lookup s.active r.uid = some rid
      · rcases eff.unbound _ _ hb with hb' | ⟨rid', r0, hpd, hr0, hu, hg⟩
        · exact absurd (hs.uid ▸ hb') hl
        · -- the guarded deletion removes the binding of the record it has emptied
          cases hg rfl
          obtain ⟨x, hx, hret, hemp⟩ := h.pendingDone rid hpd
          rw [hr] at hx; cases hx
          exact keep hs hret hemp
      · obtain ⟨hret, hemp⟩ := h.unboundDone rid r hr hb
        exact keep hs hret hemp
    · exact absurd hb hl
  · rcases eff.closing rid hp with hp' | ⟨r, hr, hr'⟩
    · obtain ⟨r, hr, hret⟩ := h.closingRetired rid hp'
      obtain ⟨r', hr', hs⟩ := eff.old rid r hr
      exact ⟨r', hr', hs.retired hret⟩
    · exact ⟨_, hr', by simp [orphanRepaired]⟩

/-- the clean-up of a refused connection keeps the invariant, whichever of the two it is: `CloseSession(own id)` is a
closure; the repaired helper changes a record only by retiring it when it is empty -/
theorem inv_refusedCleanup {a b : Bool} {s : St} (h : Inv s) (rid sid : Nat) :
    Inv (refusedCleanup (orphanRepaired a b) s rid sid).1 := inv_step h (.refusedCleanup rid sid)

theorem inv_run {a b : Bool} (evs : List Ev) : ∀ {s : St}, Inv s → Inv (run (orphanRepaired a b) s evs) :=
  fun h => List.foldlRecOn (motive := Inv) evs (step _) h (fun _ hs e _ => inv_step hs e)

theorem single_of_B {s : St} (h : SingleRecord s) : singleRecordB s = true := by
  unfold singleRecordB
  rw [List.all_eq_true]
  intro rid _
  split
  · rename_i r hr
    by_cases he : r.sessions = []
    · simp [he]
    · simp [h rid r hr he]
  · rfl

end Panel
