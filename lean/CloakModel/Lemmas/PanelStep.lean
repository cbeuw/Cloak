import CloakModel.Lemmas.PanelSpec

/-! What one event of `Panel.step` does, said once: a step changes at most one record of the table, in one of the ways
`RecStep` lists, and each other table in the one way `Effect` gives for it (`step_effect`, the only case analysis over
`Panel.Ev` that unfolds the operations).  The invariants of the step model (`Lemmas/PanelInv.lean`, `Props/C15.lean`)
are consequences of `step_effect`; they look at the shapes of `RecStep`, not at the operations. -/
namespace Panel

/-- `CloseSession`'s effect on the record -/
def Rec.close (r : Rec) (sid : Nat) : Rec :=
  let ss := r.sessions.filter (fun e => e.1 != sid)
  { r with sessions := ss, retired := r.retired || (Gen.Panel.closeSessionRetiresWhenEmpty && ss.isEmpty) }

theorem Rec.close_sessions (r : Rec) (sid : Nat) :
    (r.close sid).sessions = r.sessions.filter (fun e => e.1 != sid) := rfl

/-- a closure that leaves a session behind does not retire the record -/
theorem Rec.close_retired (r : Rec) (sid : Nat) (h : (r.close sid).sessions.isEmpty = false) :
    (r.close sid).retired = r.retired := by
  rw [Rec.close_sessions] at h
  simp [Rec.close, h]

/-- what the event `e` may do to the record `r` at index `j` -/
inductive RecStep (cfg : Cfg) (s : St) (j : Nat) (r : Rec) : Ev → Rec → Prop
  | skip (e) : RecStep cfg s j r e r
  | add (sid key now) : lookup r.sessions sid = none → (cfg.checksRetired = true → r.retired = false) →
      (r.bypass = false → authoriseNew s.store r.uid now r.sessions.length = none) →
      RecStep cfg s j r (.getSession j sid key now) { r with sessions := (sid, key) :: r.sessions }
  | close (sid) : RecStep cfg s j r (.closeLocked j sid) (r.close sid)
  | cleanupClose (sid) : cfg.cleanupNamesSession = true → RecStep cfg s j r (.refusedCleanup j sid) (r.close sid)
  | cleanup (sid) : cfg.cleanupNamesSession = false →
      RecStep cfg s j r (.refusedCleanup j sid) { r with retired := r.retired || (cfg.cleanupRetires && r.sessions.isEmpty) }
  | retire : RecStep cfg s j r (.retire j) { r with retired := r.retired || cfg.marksRetired }
  | clear : j ∈ s.pendingClose → RecStep cfg s j r (.closeAll j) { r with sessions := [] }

/-- what the event `e`, taking `s` to `s'`, does to each table -/
structure Effect (cfg : Cfg) (s : St) (e : Ev) (s' : St) : Prop where
  /-- a record that exists stays at its index, changed as `RecStep` says -/
  old : ∀ j r, s.recs[j]? = some r → ∃ r', s'.recs[j]? = some r' ∧ RecStep cfg s j r e r'
  /-- a record that did not exist is the empty one `getUser` made and bound -/
  fresh : ∀ (j : Nat) (r' : Rec), s.recs[j]? = none → s'.recs[j]? = some r' →
    r'.sessions = [] ∧ r'.retired = false ∧ lookup s'.active r'.uid = some j
  /-- a binding is an old one, unless `getUser` has just made it together with the record -/
  bound : ∀ u rid, lookup s'.active u = some rid →
    lookup s.active u = some rid ∨ ∃ b, s'.recs[rid]? = some ⟨u, b, false, []⟩
  /-- a binding goes only when a termination deletes it: one that has closed the sessions of a record of that user,
  the bound record itself if the deletion is guarded -/
  unbound : ∀ u rid, lookup s.active u = some rid → lookup s'.active u = some rid ∨
    ∃ rid' r, rid' ∈ s.pendingDel ∧ s.recs[rid']? = some r ∧ r.uid = u ∧ (cfg.guardedDelete = true → rid' = rid)
  /-- the database changes by the admin's edits only -/
  stored : ∀ u i, lookup s'.store u = some i → lookup s.store u = some i ∨ e = .put u i
  /-- a termination joins those that have yet to close the sessions by running its `retire` section -/
  closing : ∀ rid, rid ∈ s'.pendingClose → rid ∈ s.pendingClose ∨
    ∃ r, s.recs[rid]? = some r ∧ s'.recs[rid]? = some { r with retired := r.retired || cfg.marksRetired }
  /-- … and those that have yet to delete the binding by closing the sessions -/
  deleting : ∀ rid, rid ∈ s'.pendingDel → rid ∈ s.pendingDel ∨
    (rid ∈ s.pendingClose ∧ ∃ r, s.recs[rid]? = some r ∧ s'.recs[rid]? = some { r with sessions := [] })

theorem Effect.same {cfg s e} : Effect cfg s e s :=
  ⟨fun _ _ h => ⟨_, h, .skip e⟩, fun _ _ h h' => (by rw [h] at h'; cases h'), fun _ _ => .inl, fun _ _ => .inl,
   fun _ _ => .inl, fun _ => .inl, fun _ => .inl⟩

/-- a table update at `i` -/
theorem Effect.set {cfg s e i a b} (hi : s.recs[i]? = some a) (hb : RecStep cfg s i a e b) :
    Effect cfg s e { s with recs := s.recs.set i b } := by
  refine ⟨fun j r hr => ⟨_, getElem?_set_of hi hr, ?_⟩, fun _ _ h h' => ?_, fun _ _ => .inl, fun _ _ => .inl,
    fun _ _ => .inl, fun _ => .inl, fun _ => .inl⟩
  · split
    · rename_i h; subst h; rw [hr] at hi; cases hi; exact hb
    · exact .skip e
  · rw [getElem?_set_none h] at h'; cases h'

theorem step_effect (cfg : Cfg) (s : St) (e : Ev) : Effect cfg s e (step cfg s e) := by
  have close : ∀ rid sid, (∀ r, RecStep cfg s rid r e (r.close sid)) → Effect cfg s e (closeLocked s rid sid).1 := by
    intro rid sid hb
    unfold closeLocked
    split
    · exact .same
    · rename_i a ha; exact .set ha (hb a)
  cases e with
  | put u i =>
    refine { Effect.same (cfg := cfg) (s := s) with stored := fun u' i' h => ?_ }
    simp only [step, put] at h
    rw [lookup_cons] at h
    split at h
    · rename_i hu; cases h; exact .inr (by rw [hu])
    · rename_i hu; rw [lookup_filter_ne _ _ _ (fun e => hu e.symm)] at h; exact .inl h
  | del u => exact { Effect.same (cfg := cfg) (s := s) with stored := fun _ _ h => .inl (lookup_filter_some _ _ _ _ h).2 }
  | getUser u b now =>
    simp only [step, getUser]
    split
    · exact .same
    · rename_i hn
      split
      · exact .same
      · refine ⟨fun j r hr => ⟨r, ?_, .skip _⟩, fun j r' h h' => ?_, fun u' rid h => ?_, fun u' rid h => .inl ?_,
          fun _ _ => .inl, fun _ => .inl, fun _ => .inl⟩
        · simp only; rw [List.getElem?_append_left (getElem?_lt _ _ _ hr)]; exact hr
        · rcases getElem?_append_cases _ _ _ _ h' with ⟨rfl, rfl⟩ | ⟨_, h''⟩
          · exact ⟨rfl, rfl, by simp only [lookup_cons, if_true]⟩
          · rw [h] at h''; cases h''
        · simp only [lookup_cons] at h
          split at h
          · rename_i hu; cases h; exact .inr ⟨b, by rw [← hu]; exact List.getElem?_concat_length⟩
          · exact .inl h
        · simp only [lookup_cons]
          split
          · rename_i hu; rw [hu, h] at hn; cases hn
          · exact h
  | getSession rid sid key now =>
    rcases getSession_spec cfg s rid sid key now with ⟨a, ha, hfree, hnr, hauth, he⟩ | ⟨_, _, _, _, _, he⟩ | ⟨_, he, _⟩ <;>
      simp only [step, he]
    · exact .set ha (.add sid key now hfree hnr hauth)
    · exact .same
    · exact .same
  | closeLocked rid sid => exact close rid sid (fun r => .close sid)
  | retire rid =>
    simp only [step, retire]
    split
    · exact .same
    · rename_i a ha
      refine { Effect.set ha .retire with closing := fun j hj => ?_ }
      rcases List.mem_cons.1 hj with rfl | hj
      · exact .inr ⟨a, ha, getElem?_set_eq' _ _ _ _ ha⟩
      · exact .inl hj
  | closeAll rid =>
    simp only [step, closeAll]
    split
    · rename_i hp
      split
      · exact .same
      · rename_i a ha
        refine { Effect.set ha (.clear hp) with closing := fun j hj => .inl (List.mem_of_mem_erase hj), deleting := fun j hj => ?_ }
        rcases List.mem_cons.1 hj with rfl | hj
        · exact .inr ⟨hp, a, ha, getElem?_set_eq' _ _ _ _ ha⟩
        · exact .inl hj
    · exact .same
  | deleteRec rid =>
    simp only [step, deleteRec]
    split
    · rename_i hp
      split
      · exact .same
      · rename_i a ha
        split
        · exact { Effect.same (cfg := cfg) (s := s) with deleting := fun j hj => .inl (List.mem_of_mem_erase hj) }
        · rename_i hg
          refine { Effect.same (cfg := cfg) (s := s) with
            deleting := fun j hj => .inl (List.mem_of_mem_erase hj)
            bound := fun _ _ h => .inl (lookup_filter_some _ _ _ _ h).2
            fresh := fun _ _ h h' => (by rw [h] at h'; cases h')
            unbound := fun u j h => ?_ }
          by_cases hu : u = a.uid
          · refine .inr ⟨rid, a, hp, ha, hu.symm, fun hgd => ?_⟩
            have : lookup s.active a.uid = some rid := by simpa [hgd] using hg
            rw [← hu, h] at this; exact (Option.some.inj this).symm
          · exact .inl (by simp only; rw [lookup_filter_ne _ _ _ hu]; exact h)
    · exact .same
  | refusedCleanup rid sid =>
    simp only [step]
    by_cases hn : cfg.cleanupNamesSession = true
    · rw [refusedCleanup_names hn]; exact close rid sid (fun r => .cleanupClose sid hn)
    · have hn' : cfg.cleanupNamesSession = false := by simpa using hn
      cases ha : s.recs[rid]? with
      | none => rw [refusedCleanup_noRec hn' ha]; exact .same
      | some a => rw [refusedCleanup_rec hn' ha]; exact .set ha (.cleanup sid hn')

theorem RecStep.uid {cfg s j r e r'} (h : RecStep cfg s j r e r') : r'.uid = r.uid := by cases h <;> rfl
theorem RecStep.bypass {cfg s j r e r'} (h : RecStep cfg s j r e r') : r'.bypass = r.bypass := by cases h <;> rfl
/-- no step ever clears a record's `retired` flag -/
theorem RecStep.retired {cfg s j r e r'} (h : RecStep cfg s j r e r') (hr : r.retired = true) : r'.retired = true := by
  cases h <;> simp [Rec.close, hr]

/-- where a record of the new table comes from -/
theorem Effect.origin {cfg s e s'} (h : Effect cfg s e s') {j : Nat} {r' : Rec} (hx : s'.recs[j]? = some r') :
    (∃ r, s.recs[j]? = some r ∧ RecStep cfg s j r e r') ∨
      (r'.sessions = [] ∧ r'.retired = false ∧ lookup s'.active r'.uid = some j) := by
  cases hr : s.recs[j]? with
  | none => exact .inr (h.fresh j r' hr hx)
  | some r =>
    obtain ⟨r'', h', hs⟩ := h.old j r hr
    rw [hx] at h'; cases h'
    exact .inl ⟨r, rfl, hs⟩

end Panel
