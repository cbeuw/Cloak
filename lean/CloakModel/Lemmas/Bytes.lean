import CloakModel.Model.Basic

/-! The big-endian conversions of Model/Basic are inverse to each other (up to the truncation `beBytes` performs). -/

@[simp] theorem beBytes_length : ∀ (n v : Nat), (beBytes n v).length = n
  | 0, _ => rfl
  | n+1, v => by simp [beBytes, beBytes_length n]

theorem beNat_eq_foldl (l : Bytes) : beNat l = l.foldl (fun a b => a * 256 + b.toNat) 0 := by
  cases l <;> rfl

theorem beNat_append (a b : Bytes) : beNat (a ++ b) = beNat a * 256 ^ b.length + beNat b := by
  have shift : ∀ (l : Bytes) (acc : Nat), l.foldl (fun a b => a * 256 + b.toNat) acc =
      acc * 256 ^ l.length + l.foldl (fun a b => a * 256 + b.toNat) 0 := by
    intro l
    induction l with
    | nil => simp
    | cons x xs ih =>
      intro acc
      simp only [List.foldl_cons, List.length_cons]
      rw [ih (acc * 256 + x.toNat), ih (0 * 256 + x.toNat), Nat.pow_succ]
      simp [Nat.add_mul, Nat.mul_assoc, Nat.mul_comm 256, Nat.add_assoc]
  rw [beNat_eq_foldl, beNat_eq_foldl, beNat_eq_foldl, List.foldl_append, shift]

theorem beNat_beBytes : ∀ (n v : Nat), beNat (beBytes n v) = v % 256 ^ n
  | 0, v => by simp [beBytes, beNat, Nat.mod_one]
  | n+1, v => by
    rw [beBytes, beNat_append, beNat_beBytes n (v / 256)]
    have h1 : beNat [UInt8.ofNat (v % 256)] = v % 256 := by
      simp [beNat, UInt8.toNat_ofNat']
    rw [h1]
    simp only [List.length_cons, List.length_nil, Nat.zero_add, Nat.pow_one]
    rw [Nat.pow_succ, Nat.mul_comm (256 ^ n) 256, Nat.mod_mul, Nat.add_comm, Nat.mul_comm]

theorem beNat_beBytes_lt (n v : Nat) (h : v < 256 ^ n) : beNat (beBytes n v) = v := by
  rw [beNat_beBytes, Nat.mod_eq_of_lt h]
