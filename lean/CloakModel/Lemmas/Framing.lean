import CloakModel.Model.TLSRecord

/-! Lemmas about `Rec.readFull` (model of `io.ReadFull` over a chunked stream): its result depends
only on the concatenation of the chunks.  Used by C05 (record framing) and C09 (first packet). -/

namespace Rec

theorem readFull_spec : ∀ (cs : Chunks) (n : Nat),
    (n ≤ cs.flatten.length →
      ∃ rest, readFull n cs = some (cs.flatten.take n, rest) ∧ rest.flatten = cs.flatten.drop n) ∧
    (cs.flatten.length < n → readFull n cs = none) := by
  intro cs
  induction cs with
  | nil =>
    intro n
    cases n with
    | zero => simp [readFull]
    | succ n => simp [readFull]
  | cons c cs ih =>
    intro n
    cases n with
    | zero => simp [readFull]
    | succ n =>
      simp only [List.flatten_cons, List.length_append]
      by_cases hle : c.length ≤ n + 1
      · have ih' := ih (n + 1 - c.length)
        constructor
        · intro hlen
          obtain ⟨rest, h1, h2⟩ := ih'.1 (by omega)
          refine ⟨rest, ?_, ?_⟩
          · unfold readFull; simp [hle, h1, List.take_append]
            rw [List.take_of_length_le hle]
          · rw [h2, List.drop_append, List.drop_of_length_le hle]; simp
        · intro hlen
          have := ih'.2 (by omega)
          unfold readFull; simp [hle, this]
      · constructor
        · intro _
          refine ⟨c.drop (n+1) :: cs, ?_, ?_⟩
          · unfold readFull; simp [hle, List.take_append]
            have : n + 1 - c.length = 0 := by omega
            simp [this]
          · simp [List.drop_append]
            have : n + 1 - c.length = 0 := by omega
            simp [this]
        · intro hlen; omega

/-- the length field of a record header that was read into a zeroed buffer is bytes 3..4 of the stream -/
theorem lenField_take5 (s : Bytes) (h : 5 ≤ s.length) :
    ((s.take 5 ++ List.replicate (5 - (s.take 5).length) 0).drop 3).take 2 = (s.drop 3).take 2 := by
  have : (s.take 5).length = 5 := by simp; omega
  rw [this, Nat.sub_self, List.replicate_zero, List.append_nil, List.drop_take]
  simp [List.take_take]

/-- `readFull` on a flat byte string (the specification `readFull` is compared with) -/
def takeExact (n : Nat) (s : Bytes) : Option (Bytes × Bytes) :=
  if n ≤ s.length then some (s.take n, s.drop n) else none

/-- `readFull` sees only the concatenation of the chunks -/
theorem readFull_flat (cs : Chunks) (n : Nat) :
    (readFull n cs).map (fun r => (r.1, r.2.flatten)) = takeExact n cs.flatten := by
  unfold takeExact
  by_cases h : n ≤ cs.flatten.length
  · obtain ⟨rest, h1, h2⟩ := (readFull_spec cs n).1 h
    rw [if_pos h, h1]; simp only [Option.map_some, h2]
  · have := (readFull_spec cs n).2 (by omega)
    rw [if_neg h, this]; rfl

theorem readFull_some {cs : Chunks} {n : Nat} {r : Bytes} {rest : Chunks} (h : readFull n cs = some (r, rest)) :
    n ≤ cs.flatten.length ∧ r = cs.flatten.take n ∧ rest.flatten = cs.flatten.drop n := by
  by_cases hn : n ≤ cs.flatten.length
  · obtain ⟨rest', h1, h2⟩ := (readFull_spec cs n).1 hn
    rw [h1] at h
    injection h with h
    injection h with ha hb
    subst ha; subst hb
    exact ⟨hn, rfl, h2⟩
  · have := (readFull_spec cs n).2 (by omega)
    rw [this] at h; cases h

theorem readFull_none {cs : Chunks} {n : Nat} (h : readFull n cs = none) : cs.flatten.length < n := by
  by_cases hn : n ≤ cs.flatten.length
  · obtain ⟨rest', h1, _⟩ := (readFull_spec cs n).1 hn
    rw [h1] at h; cases h
  · omega

end Rec
