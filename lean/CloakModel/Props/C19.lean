import CloakModel.Model.TokenBucket
import CloakModel.Lemmas.TokenBucketCore
import CloakModel.Lemmas.GenBridge

/-! # C19 — A limited user's throughput never exceeds the configured rates

(1) bridging: the executable bucket `TB.*` (built from the terms extracted from the rate-limiter library's source)
is the specification bucket `TBS.*` (`min`, `ceilDiv`); structural facts about Cloak's use of the limiter;
(2) `c19_upper`: bytes released in ANY tick interval, ANY request sequence from any number of sessions and
connections sharing the bucket; (3) the property's literal burst term ("one second's worth") — true when every
message fits into one second's worth (`c19_literal_when_fits`), FALSE in general (`c19_witness`): open finding;
(4) `c19_not_starved`: a backlogged sender gets the configured rate; (5) nanosecond form used by the monitor. -/
set_option linter.unusedSimpArgs false
set_option linter.unusedVariables false

namespace C19

/-! ## 1. The executable bucket is the specification bucket -/

theorem gen_full (a cap : Int) : Gen.Valve.tbFull a cap = true ↔ a ≥ cap := by
  unfold Gen.Valve.tbFull; gen_bool
theorem gen_over (a cap : Int) : Gen.Valve.tbOver a cap = true ↔ a > cap := by
  unfold Gen.Valve.tbOver; gen_bool
theorem gen_refill (t l q : Int) : Gen.Valve.tbRefillAdd t l q = (t - l) * q := by
  unfold Gen.Valve.tbRefillAdd; gen_bool
theorem gen_nonpos (c : Int) : Gen.Valve.tbCountNonPos c = true ↔ c ≤ 0 := by
  unfold Gen.Valve.tbCountNonPos; gen_bool
theorem gen_after (a c : Int) : Gen.Valve.tbAvailAfter a c = a - c := by
  unfold Gen.Valve.tbAvailAfter; gen_bool
theorem gen_enough (a : Int) : Gen.Valve.tbEnough a = true ↔ a ≥ 0 := by
  unfold Gen.Valve.tbEnough; gen_bool
/-- the library's round-up `tick + (-avail + quantum - 1) / quantum` (Go's truncating division) is
`tick + ⌈-avail / quantum⌉` whenever tokens are missing -/
theorem gen_endTick (t a q : Int) (ha : a < 0) (hq : 0 < q) : Gen.Valve.tbEndTick t a q = t + TBS.ceilDiv (-a) q := by
  unfold Gen.Valve.tbEndTick TBS.ceilDiv
  rw [Int.tdiv_eq_ediv_of_nonneg (by omega)]
theorem gen_currentTick (now fi : Int) (hn : 0 ≤ now) : Gen.Valve.tbCurrentTick now fi = now / fi := by
  unfold Gen.Valve.tbCurrentTick
  rw [Int.tdiv_eq_ediv_of_nonneg hn]
theorem gen_endTime (e fi : Int) : Gen.Valve.tbEndTimeSinceStart e fi = e * fi := by
  unfold Gen.Valve.tbEndTimeSinceStart; gen_bool

/-- structural facts (patterns the extractor matched on the current tree and on the library source at the version
pinned in go.mod): `send` waits for `len(data)` tokens before any write; `deplex` waits for `n` tokens after each
read and before processing; `MakeValve` gives each bucket capacity = rate; the switchboard uses the session's valve
and a session keeps the valve it was configured with; every session of an active user gets that user's one valve;
statement order of `take` / `adjustavailableTokens`; buckets start full; `Wait` sleeps for what `Take` computed. -/
theorem gen_structure :
    Gen.Valve.txWaitBeforeWrite = true ∧ Gen.Valve.txWaitArgIsLen = true ∧ Gen.Valve.addTxAfterWrite = true ∧
    Gen.Valve.rxWaitAfterRead = true ∧ Gen.Valve.addRxEveryRead = true ∧
    Gen.Valve.valveCapacityIsRate = true ∧ Gen.Valve.valveRxTxNotSwapped = true ∧ Gen.Valve.valveWaitsOnOwnBucket = true ∧
    Gen.Valve.sessionUsesConfiguredValve = true ∧ Gen.Valve.valvePerRecord = true ∧
    Gen.Valve.ratelimitVersion = "v1.0.2" ∧ Gen.Valve.tbRateMarginText = "0.01" ∧
    Gen.Valve.tbTakeShape = true ∧ Gen.Valve.tbAdjustShape = true ∧ Gen.Valve.tbStartsFull = true ∧
    Gen.Valve.tbWaitSleepsTake = true := by and_intros <;> rfl

def core (b : TB.B) : TBS.B := ⟨b.avail, b.last⟩

theorem adjust_sim (cap q : Int) (b : TB.B) (t : Int) : core (TB.adjust cap q b t) = TBS.adjust cap q (core b) t := by
  simp only [TB.adjust, TBS.adjust, core, gen_full, gen_over, gen_refill]
  by_cases hf : b.avail ≥ cap
  · simp only [hf, if_true]
  · by_cases ho : b.avail + (t - b.last) * q > cap
    · simp only [hf, ho, if_true, if_false, Int.min_eq_left (Int.le_of_lt ho)]
    · simp only [hf, ho, if_false, Int.min_eq_right (Int.not_lt.1 ho)]

theorem adjust_last (cap q : Int) (b : TB.B) (t : Int) : (TB.adjust cap q b t).last = t :=
  (congrArg TBS.B.last (adjust_sim cap q b t)).trans (by unfold TBS.adjust; split <;> rfl)

theorem take_sim (cap q : Int) (hq : 0 < q) (b : TB.B) (t c : Int) (hc : 0 < c) :
    core (TB.take cap q b t c).1 = (TBS.take cap q (core b) t c).1 ∧
    TB.relTick t (TB.take cap q b t c).2 = (TBS.take cap q (core b) t c).2 := by
  have hav : (TB.adjust cap q b t).avail = (TBS.adjust cap q (core b) t).avail :=
    congrArg TBS.B.avail (adjust_sim cap q b t)
  simp only [TB.take, TBS.take, gen_nonpos, gen_after, gen_enough, if_neg (Int.not_le.2 hc), adjust_last, hav]
  generalize (TBS.adjust cap q (core b) t).avail = pre
  by_cases he : pre - c ≥ 0
  · simp only [he, if_true, core, TB.relTick, and_self]
  · simp only [he, if_false, core, TB.relTick, true_and]
    exact gen_endTick _ _ _ (by omega) hq

theorem run_sim (cap q : Int) (hq : 0 < q) : ∀ (reqs : List (Int × Int)) (b : TB.B), (∀ x ∈ reqs, 0 < x.2) →
    TB.run cap q b reqs = TBS.run cap q (core b) reqs := by
  intro reqs
  induction reqs with
  | nil => intro b _; rfl
  | cons rc rest ih =>
    obtain ⟨t, c⟩ := rc
    intro b h
    obtain ⟨h1, h2⟩ := take_sim cap q hq b t c (h (t, c) (by simp))
    simp only [TB.run, TBS.run]
    rw [h2, ih _ (fun x hx => h x (by simp [hx])), h1]

/-! ## 2. Upper bound, every interval -/

/-- requests `(tick, count)` in non-decreasing tick order from `last` on, counts positive -/
abbrev Good := TBS.Good
/-- bytes whose release tick lies in the closed interval `[a, b]` -/
abbrev released := TBS.windowSum

theorem good_mem : ∀ (reqs : List (Int × Int)) (l : Int), Good l reqs → ∀ x ∈ reqs, l ≤ x.1 ∧ 0 < x.2 := by
  intro reqs
  induction reqs with
  | nil => intro l _ x hx; simp at hx
  | cons rc rest ih =>
    obtain ⟨t, c⟩ := rc
    intro l hg x hx
    simp only [List.mem_cons] at hx
    rcases hx with rfl | hx
    · exact ⟨hg.1, hg.2.1⟩
    · exact ⟨Int.le_trans hg.1 (ih t hg.2.2 x hx).1, (ih t hg.2.2 x hx).2⟩

theorem good_pos (reqs : List (Int × Int)) (l : Int) (hg : Good l reqs) : ∀ x ∈ reqs, 0 < x.2 :=
  fun x hx => (good_mem reqs l hg x hx).2

/-- **C19 (upper bound).** One bucket of capacity `cap`, `q` tokens per tick, initially full (as `MakeValve` builds
it: `cap` = the configured rate), shared by any number of sessions, connections and streams: for ANY sequence of
requests `(tick, bytes)` in non-decreasing tick order (the order in which the bucket's mutex serialises them), with
every request at most `M` bytes, and ANY ticks `a ≤ b`: the bytes released (written to the wire / handed to the
session) in `[a, b]` are at most `max(cap, M + q − 1) + q·(b − a)`. -/
theorem c19_upper (cap q M : Int) (hcap : 0 < cap) (hq : 0 < q) (a bb : Int) (hab : a ≤ bb)
    (reqs : List (Int × Int)) (hg : Good 0 reqs) (hM : ∀ x ∈ reqs, x.2 ≤ M) :
    released a bb (TB.run cap q ⟨cap, 0⟩ reqs) ≤ max cap (M + q - 1) + (bb - a) * q := by
  rw [run_sim cap q hq reqs _ (good_pos reqs 0 hg)]
  exact TBS.c19_upper cap q M hcap hq a bb hab reqs ⟨cap, 0⟩ hg (Int.le_refl _) hM

/-- non-vacuity: three requests (the second and third have to wait) satisfy the hypotheses, and the bound is
attained in `[2, 2]`: the 7 bytes of the second message are released in tick 2 although the bucket holds only 4 -/
example : Good 0 [(0, 3), (0, 7), (1, 2)] ∧ TB.run 4 3 ⟨4, 0⟩ [(0, 3), (0, 7), (1, 2)] = [(0, 3), (2, 7), (3, 2)] ∧
    released 2 2 (TB.run 4 3 ⟨4, 0⟩ [(0, 3), (0, 7), (1, 2)]) = 7 ∧ max (4 : Int) (7 + 3 - 1) + (2 - 2) * 3 = 9 := by
  refine ⟨by simp [Good, TBS.Good], by decide, by decide, by decide⟩

/-! ## 3. The property's literal burst term -/

/-- the property as literally stated, in ticks: in ANY interval at most `rate × t` (here `q·(b−a)`) plus one second's
worth of burst (`cap`, which `MakeValve` sets to the rate), with one quantum of granularity — for ALL message sizes -/
def c19_literal_full (cap q : Int) : Prop :=
  ∀ reqs : List (Int × Int), Good 0 reqs → ∀ a bb : Int, a ≤ bb →
    released a bb (TB.run cap q ⟨cap, 0⟩ reqs) ≤ cap + (bb - a) * q + q

/-- **C19 (literal bound, partial).** When every message fits into one second's worth (`M + q − 1 ≤ cap`, i.e.
the configured rate is not below the largest message) the literal bound holds, without the granularity term.
What is missing for the full statement: rates below the largest message — see `c19_witness`. -/
theorem c19_literal_when_fits (cap q M : Int) (hcap : 0 < cap) (hq : 0 < q) (hfit : M + q - 1 ≤ cap) (a bb : Int) (hab : a ≤ bb)
    (reqs : List (Int × Int)) (hg : Good 0 reqs) (hM : ∀ x ∈ reqs, x.2 ≤ M) :
    released a bb (TB.run cap q ⟨cap, 0⟩ reqs) ≤ cap + (bb - a) * q := by
  have := c19_upper cap q M hcap hq a bb hab reqs hg hM
  omega

/-- **C19 (open finding).** The literal statement is false of the faithful model for a rate below the message size:
rate 1000 B/s (`q = 1`, one tick = 1 ms), one 16000-byte message requested at tick 0 is released whole at tick
15000 — 16000 bytes in a zero-length interval, against the literal allowance of 1000 + 1. -/
theorem c19_witness : ¬ c19_literal_full 1000 1 := by
  intro h
  have := h [(0, 16000)] (by simp [Good, TBS.Good]) 15000 15000 (Int.le_refl _)
  revert this
  decide

/-- the literal statement fails for EVERY capacity and quantum: one message of `cap + q + 1` bytes asked for at
tick 0 is released whole, in whatever tick that is (two ticks later) -/
theorem c19_witness_any (cap q : Int) (hcap : 0 < cap) (hq : 0 < q) : ¬ c19_literal_full cap q := by
  intro h
  have hg : Good 0 [(0, cap + q + 1)] := ⟨Int.le_refl _, by omega, trivial⟩
  have := h _ hg _ _ (Int.le_refl (TBS.take cap q ⟨cap, 0⟩ 0 (cap + q + 1)).2)
  rw [run_sim cap q hq _ _ (good_pos _ 0 hg)] at this
  simp [released, TBS.windowSum, TBS.run, core] at this
  omega

/-! ## 4. A backlogged sender is not held below the rate -/

/-- back-to-back sender on the executable bucket: each message is requested in the tick in which the previous one
was released -/
def runBL (cap q : Int) : TB.B → Int → List Int → List (Int × Int)
  | _, _, [] => []
  | b, t, c :: r =>
    (TB.relTick t (TB.take cap q b t c).2, c) :: runBL cap q (TB.take cap q b t c).1 (TB.relTick t (TB.take cap q b t c).2) r

theorem runBL_sim (cap q : Int) (hq : 0 < q) : ∀ (cs : List Int) (b : TB.B) (t : Int), (∀ c ∈ cs, 0 < c) →
    runBL cap q b t cs = TBS.run cap q (core b) (TBS.reqsBL cap q (core b) t cs) := by
  intro cs
  induction cs with
  | nil => intro b t _; rfl
  | cons c rest ih =>
    intro b t h
    obtain ⟨h1, h2⟩ := take_sim cap q hq b t c (h c (by simp))
    simp only [runBL, TBS.reqsBL, TBS.run]
    rw [h2, ih _ _ (fun x hx => h x (by simp [hx])), h1]

/-- bytes released up to and including tick `t` -/
abbrev releasedBy := TBS.sumBy

/-- **C19 (not starved).** A single sender that always has the next message ready (sizes `0 < c ≤ M`), on a
bucket of capacity `cap ≥ q − 1` that starts full: at every tick `t ≥ 0` at which it is still waiting for a message
it has already been let through MORE than `cap + q·t − M` bytes — the configured rate from the first tick on, less
at most the one message in flight. -/
theorem c19_not_starved (cap q M : Int) (hq : 0 < q) (hqc : q ≤ cap + 1) (cs : List Int)
    (hcs : ∀ c ∈ cs, 0 < c ∧ c ≤ M) (t : Int) (ht : 0 ≤ t)
    (hp : ∃ x ∈ runBL cap q ⟨cap, 0⟩ 0 cs, t < x.1) :
    cap + q * t - M < releasedBy t (runBL cap q ⟨cap, 0⟩ 0 cs) := by
  rw [runBL_sim cap q hq cs _ _ (fun c hc => (hcs c hc).1)] at hp ⊢
  have := TBS.not_starved_core cap q M hq hqc cs ⟨cap, 0⟩ 0 (Int.le_refl _) (Int.le_refl _) hcs t ht hp
  simpa [TBS.adjust, core] using this

/-- the back-to-back sender is one of the request sequences `c19_upper` quantifies over -/
theorem runBL_is_run (cap q : Int) (hq : 0 < q) (cs : List Int) (hcs : ∀ c ∈ cs, 0 < c) :
    runBL cap q ⟨cap, 0⟩ 0 cs = TB.run cap q ⟨cap, 0⟩ (TBS.reqsBL cap q ⟨cap, 0⟩ 0 cs) ∧
    Good 0 (TBS.reqsBL cap q ⟨cap, 0⟩ 0 cs) := by
  have hg := TBS.reqsBL_good cap q hq cs ⟨cap, 0⟩ 0 (Int.le_refl _) hcs
  exact ⟨by rw [runBL_sim cap q hq cs _ _ hcs, run_sim cap q hq _ _ (good_pos _ 0 hg)]; rfl, hg⟩

/-- non-vacuity: rate 4/tick·3, messages 3,7,2,9 back to back; while the 9-byte message waits (tick 4) the sender
has been let through 12 > 4 + 3·4 − 9 bytes -/
example : runBL 4 3 ⟨4, 0⟩ 0 [3, 7, 2, 9] = [(0, 3), (2, 7), (3, 2), (6, 9)] ∧
    releasedBy 4 (runBL 4 3 ⟨4, 0⟩ 0 [3, 7, 2, 9]) = 12 := by
  refine ⟨by decide, by decide⟩

/-! ## 5. Nanosecond form (what the harness monitor evaluates) -/

/-- requests `(ns since the bucket was made, bytes)` → `(release time in ns, bytes)`, as `Bucket.Wait` behaves on an
exact clock: the caller proceeds `wait` ns after asking -/
def runNs (p : TB.P) : TB.B → List (Int × Int) → List (Int × Int)
  | _, [] => []
  | b, (now, c) :: r => (now + (TB.takeNs p b now c).2, c) :: runNs p (TB.takeNs p b now c).1 r

def toTicks (fi : Int) (l : List (Int × Int)) : List (Int × Int) := l.map (fun x => (x.1 / fi, x.2))

theorem takeNs_tick (p : TB.P) (hfi : 0 < p.fi) (b : TB.B) (now c : Int) (hn : 0 ≤ now) :
    (TB.takeNs p b now c).1 = (TB.take p.cap p.q b (now / p.fi) c).1 ∧
    (now + (TB.takeNs p b now c).2) / p.fi = TB.relTick (now / p.fi) (TB.take p.cap p.q b (now / p.fi) c).2 := by
  unfold TB.takeNs
  simp only [gen_currentTick now p.fi hn]
  cases hr : TB.take p.cap p.q b (now / p.fi) c with
  | mk b' rel =>
    cases rel with
    | now => simp [TB.relTick]
    | «at» e =>
      simp only [TB.relTick, gen_endTime, true_and]
      have : now + (e * p.fi - now) = e * p.fi := by omega
      rw [this, Int.mul_ediv_cancel _ (Int.ne_of_gt hfi)]

theorem runNs_ticks (p : TB.P) (hfi : 0 < p.fi) : ∀ (reqs : List (Int × Int)) (b : TB.B), (∀ x ∈ reqs, 0 ≤ x.1) →
    toTicks p.fi (runNs p b reqs) = TB.run p.cap p.q b (toTicks p.fi reqs) := by
  intro reqs
  induction reqs with
  | nil => intro b _; rfl
  | cons rc rest ih =>
    obtain ⟨now, c⟩ := rc
    intro b h
    obtain ⟨h1, h2⟩ := takeNs_tick p hfi b now c (h (now, c) (by simp))
    simp only [runNs, toTicks, List.map_cons, TB.run]
    rw [h2, h1]
    congr 1
    exact ih _ (fun x hx => h x (by simp [hx]))

theorem good_ticks (fi : Int) (hfi : 0 < fi) : ∀ (reqs : List (Int × Int)) (last : Int), Good last reqs →
    Good (last / fi) (toTicks fi reqs) := by
  intro reqs
  induction reqs with
  | nil => intro _ _; trivial
  | cons rc rest ih =>
    obtain ⟨t, c⟩ := rc
    intro last hg
    exact ⟨Int.ediv_le_ediv hfi hg.1, hg.2.1, ih t hg.2.2⟩

theorem window_ticks (fi : Int) (hfi : 0 < fi) (A B : Int) : ∀ l : List (Int × Int), (∀ x ∈ l, 0 ≤ x.2) →
    released A B l ≤ released (A / fi) (B / fi) (toTicks fi l) := by
  intro l
  induction l with
  | nil => intro _; simp [released, TBS.windowSum, toTicks]
  | cons x rest ih =>
    obtain ⟨r, c⟩ := x
    intro h
    have hc : 0 ≤ c := h (r, c) (by simp)
    have := ih (fun x hx => h x (by simp [hx]))
    simp only [released, toTicks, List.map_cons, TBS.windowSum] at this ⊢
    by_cases hin : A ≤ r ∧ r ≤ B
    · have h2 : A / fi ≤ r / fi ∧ r / fi ≤ B / fi := ⟨Int.ediv_le_ediv hfi hin.1, Int.ediv_le_ediv hfi hin.2⟩
      rw [if_pos hin, if_pos h2]; omega
    · rw [if_neg hin]; split <;> omega

theorem runNs_counts (p : TB.P) : ∀ (reqs : List (Int × Int)) (b : TB.B), (∀ x ∈ reqs, 0 < x.2) → ∀ x ∈ runNs p b reqs, 0 ≤ x.2 := by
  intro reqs
  induction reqs with
  | nil => intro b _ x hx; simp [runNs] at hx
  | cons rc rest ih =>
    obtain ⟨now, c⟩ := rc
    intro b h x hx
    simp only [runNs, List.mem_cons] at hx
    rcases hx with hx | hx
    · subst hx; exact Int.le_of_lt (h (now, c) (by simp))
    · exact ih _ (fun y hy => h y (by simp [hy])) x hx

/-- **C19 (upper bound, on the clock).** Requests arrive at non-decreasing times (ns since the valve was made), each
for at most `M` bytes; every caller proceeds exactly when `Bucket.Wait` lets it.  Then for ANY two instants `A ≤ B`
the bytes let through in `[A, B]` are at most `max(cap, M + q − 1) + q·(⌊B/fi⌋ − ⌊A/fi⌋)` — this is, literally, the
quantity the harness monitor compares every pair of event instants with. -/
theorem c19_upper_ns (p : TB.P) (hcap : 0 < p.cap) (hq : 0 < p.q) (hfi : 0 < p.fi) (M A B : Int) (hAB : A ≤ B)
    (reqs : List (Int × Int)) (hg : Good 0 reqs) (hM : ∀ x ∈ reqs, x.2 ≤ M) :
    released A B (runNs p (TB.init p) reqs) ≤ max p.cap (M + p.q - 1) + (B / p.fi - A / p.fi) * p.q := by
  have hpos := good_pos reqs 0 hg
  have hnn : ∀ x ∈ reqs, 0 ≤ x.1 := fun x hx => (good_mem reqs 0 hg x hx).1
  have h1 := window_ticks p.fi hfi A B (runNs p (TB.init p) reqs) (runNs_counts p reqs _ hpos)
  rw [runNs_ticks p hfi reqs _ hnn] at h1
  have hg' := good_ticks p.fi hfi reqs 0 hg
  have h0 : (0 : Int) / p.fi = 0 := Int.zero_ediv _
  rw [h0] at hg'
  have hM' : ∀ x ∈ toTicks p.fi reqs, x.2 ≤ M := by
    intro x hx
    simp only [toTicks, List.mem_map] at hx
    obtain ⟨y, hy, rfl⟩ := hx
    exact hM y hy
  have h2 := c19_upper p.cap p.q M hcap hq (A / p.fi) (B / p.fi) (Int.ediv_le_ediv hfi hAB) (toTicks p.fi reqs) hg' hM'
  exact Int.le_trans h1 h2

/-- non-vacuity: rate 1000 B/s (`q = 1`, `fi` = 1 ms): a 16000-byte record asked for at 0 ns and 100 bytes asked
for 5 ms later are let through at 15 s and 15.1 s -/
example : runNs ⟨1000, 1, 1000000⟩ (TB.init ⟨1000, 1, 1000000⟩) [(0, 16000), (5000000, 100)] =
    [(15000000000, 16000), (15100000000, 100)] := by decide

/-! ## 6. The user's allowance across re-activations (open finding: a fresh bucket per active-user record)

`userPanel.GetUser` builds a new `LimitedValve` (full bucket) whenever the user has no active record, and
`TerminateActiveUser` drops the record when the user's last session closes.  The property counts all of the user's
sessions and connections together over ANY interval, so a user who disconnects and reconnects must be modelled as a
sequence of activations, each served by its own fresh bucket. -/

/-- bytes released in `[a, bb]` by a sequence of activations, each with a fresh full bucket -/
def releasedActs (cap q : Int) (a bb : Int) : List (List (Int × Int)) → Int
  | [] => 0
  | r :: rest => released a bb (TB.run cap q ⟨cap, 0⟩ r) + releasedActs cap q a bb rest

/-- the property as literally stated, for the USER: whatever the pattern of activations -/
def c19_user_full (cap q : Int) : Prop :=
  ∀ acts : List (List (Int × Int)), (∀ r ∈ acts, Good 0 r) → ∀ a bb : Int, a ≤ bb →
    releasedActs cap q a bb acts ≤ cap + (bb - a) * q + q

/-- **C19 (across re-activations, partial).** With `k` activations in play the bound is `k` times the
per-activation bound of `c19_upper` — what is missing for the full statement is that a re-activation should not
bring a fresh second's worth of burst (see `c19_reactivation_witness`). -/
theorem c19_user_partial (cap q M : Int) (hcap : 0 < cap) (hq : 0 < q) (a bb : Int) (hab : a ≤ bb) :
    ∀ acts : List (List (Int × Int)), (∀ r ∈ acts, Good 0 r ∧ ∀ x ∈ r, x.2 ≤ M) →
      releasedActs cap q a bb acts ≤ (acts.length : Int) * (max cap (M + q - 1) + (bb - a) * q) := by
  intro acts
  induction acts with
  | nil => intro _; simp [releasedActs]
  | cons r rest ih =>
    intro h
    have h1 := c19_upper cap q M hcap hq a bb hab r (h r (by simp)).1 (h r (by simp)).2
    have h2 := ih (fun x hx => h x (by simp [hx]))
    simp only [releasedActs, List.length_cons]
    have : ((rest.length + 1 : Nat) : Int) = (rest.length : Int) + 1 := by omega
    rw [this, Int.add_mul]
    omega

/-- **C19 (open finding).** Two activations of a user with rate 1000 B/s (`q = 1`): a 1000-byte message in tick 0 on
the first record, the last session closes, the user reconnects and sends another 1000-byte message in tick 1 on the
new record's fresh bucket — 2000 bytes within one tick against the allowance of 1000 + 1 + 1. -/
theorem c19_reactivation_witness : ¬ c19_user_full 1000 1 := by
  intro h
  have := h [[(0, 1000)], [(1, 1000)]] (by intro r hr; simp at hr; rcases hr with rfl | rfl <;> simp [Good, TBS.Good]) 0 1 (by decide)
  revert this
  decide

end C19

#print axioms C19.c19_upper
#print axioms C19.c19_literal_when_fits
#print axioms C19.c19_witness
#print axioms C19.c19_not_starved
#print axioms C19.gen_structure
#print axioms C19.c19_upper_ns
#print axioms C19.c19_witness_any
#print axioms C19.c19_user_partial
#print axioms C19.c19_reactivation_witness
