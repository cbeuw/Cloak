import CloakModel.Model.TLSRecord
import CloakModel.Lemmas.Framing
import CloakModel.Lemmas.GenBridge

/-! # C05 — Record framing survives any TCP segmentation and concurrent writers

(1) bridging lemmas: the *extracted* guards, slice bounds, read primitives and write count of
`TLSConn.Read/Write` (`Gen.Record.*`) mean what the proofs need; (2) `tlsRead_spec`: one model read over
ANY chunking equals a specification that only sees the concatenated byte stream; (3) the property
theorems `c05_seg_independent`, `c05_roundtrip`, `c05_oversize`, `c05_no_truncation`, `c05_writers`
(+ `c05_writers_read`), and the refutation `c05_writers_witness2` for two underlying writes.

The WebSocket half of the property is **partial**: gorilla/websocket's framing is assumed to be a
reliable message channel; what is tied here is Cloak's own logic around it (`gen_ws`). -/
set_option linter.unusedSimpArgs false
set_option linter.unusedVariables false

namespace C05
open Rec Gen.Record

/-! ## 1. Extracted facts mean what the proofs need -/

theorem gen_shortbuf (b : Nat) : tlsReadShortBuf (b : Int) = true ↔ b < 5 := by
  unfold tlsReadShortBuf; gen_bool

theorem gen_oversize (d b : Nat) : tlsReadOversize (d : Int) (b : Int) = true ↔ b < d := by
  unfold tlsReadOversize; gen_bool

theorem gen_hdr_len (d b : Int) : tlsReadHdrLo d b = 0 ∧ sliceLen (tlsReadHdrLo d b) (tlsReadHdrHi d b) = 5 := by
  unfold sliceLen tlsReadHdrLo tlsReadHdrHi; omega

theorem gen_body_len (d b : Nat) :
    tlsReadBodyLo (d : Int) (b : Int) = 0 ∧ sliceLen (tlsReadBodyLo (d : Int) (b : Int)) (tlsReadBodyHi (d : Int) (b : Int)) = d := by
  unfold sliceLen tlsReadBodyLo tlsReadBodyHi; omega

theorem gen_len_field : tlsReadLenLo.toNat = 3 ∧ tlsReadLenHi.toNat = 5 ∧ sliceLen tlsReadLenLo tlsReadLenHi = 2 := by
  unfold sliceLen tlsReadLenLo tlsReadLenHi; omega

theorem gen_toolong (n : Nat) : tlsWriteTooLong (n : Int) = true ↔ 16640 < n := by
  unfold tlsWriteTooLong
  have : (2 : Int) ^ (14 : Int).toNat = 16384 := by decide
  simp only [this]; gen_bool

theorem gen_len_bytes (n : Nat) (h : n < 65536) :
    (tlsWriteLenHi (n : Int)).toNat = n / 256 ∧ (tlsWriteLenLo (n : Int)).toNat = n % 256 := by
  unfold tlsWriteLenHi tlsWriteLenLo
  have h8 : (2 : Int) ^ (8 : Int).toNat = ((256 : Nat) : Int) := by decide
  rw [h8, show (256 : Int) = ((256 : Nat) : Int) from rfl, ← Int.natCast_ediv, ← Int.natCast_emod, ← Int.natCast_emod,
    ← Int.natCast_emod, Int.toNat_natCast, Int.toNat_natCast, Nat.mod_mod, Nat.mod_eq_of_lt (Nat.div_lt_of_lt_mul h)]
  exact ⟨rfl, rfl⟩

/-- structural facts of `TLSConn.Read`/`Write` the model relies on: two reads of the connection, both
`io.ReadFull`; guards return `io.ErrShortBuffer` without reading; statement order; the prefix
`[23,3,3]` sits in the pooled buffer, which is fetched per call, extended by the two length bytes and
the message, written with ONE `Conn.Write` (not in a loop), reset to the prefix length and returned;
over-long messages are refused before anything is written. -/
theorem gen_structure :
    tlsReadCalls = 2 ∧ tlsReadHdrFull = true ∧ tlsReadBodyFull = true ∧
    tlsReadGuardsReturnShortBuffer = true ∧ tlsReadOrder = true ∧ recordLayerLength = 5 ∧
    tlsWritePrefix = [23, 3, 3] ∧ tlsWriteResetLen = tlsWritePrefix.length ∧
    tlsWriteSingleWrite = 1 ∧ tlsWriteNotInLoop = true ∧ tlsWriteBufferDiscipline = true ∧
    tlsWriteRefusesBeforeWriting = true := by
  and_intros <;> rfl

/-- WebSocket half (partial): `WriteMessage` is the only message-producing call of `Write` and runs
between `writeM.Lock()` and `writeM.Unlock()`; `Read` takes ONE `NextReader` and loops `r.Read(buf[n:])`
until `io.EOF`, turning a zero-length read (buffer full) into an error. -/
theorem gen_ws : wsWriteUnderMutex = true ∧ wsWriteMessages = 1 ∧ wsReadLoop = true := by
  and_intros <;> rfl

/-! ## 2. One read sees only the concatenated stream -/

/-- declared length of the record at the head of a flat stream: big-endian bytes 3..4 -/
def specLen (s : Bytes) : Nat := beNat ((s.drop 3).take 2)

/-- `TLSConn.Read` specified on the flat byte stream -/
def specRead (bufLen : Nat) (s : Bytes) : Except RErr Bytes × Bytes :=
  if bufLen < 5 then (.error .shortBuf, s)
  else if s.length < 5 then (.error .eof, [])
  else if bufLen < specLen s then (.error .oversize, s.drop 5)
  else if s.length < 5 + specLen s then (.error .eof, [])
  else (.ok ((s.drop 5).take (specLen s)), s.drop (5 + specLen s))

def specAll : List Nat → Bytes → List (Except RErr Bytes)
  | [], _ => []
  | b :: bs, s => (specRead b s).1 :: specAll bs (specRead b s).2

theorem declaredLen_take5 (s : Bytes) (h : 5 ≤ s.length) : declaredLen (s.take 5) = specLen s := by
  unfold declaredLen specLen
  obtain ⟨h3, h5, h2⟩ := gen_len_field
  rw [h3, h5, h2]
  exact congrArg beNat (lenField_take5 s h)

theorem tlsRead_spec (bufLen : Nat) (cs : Chunks) :
    (tlsRead bufLen cs).1 = (specRead bufLen cs.flatten).1 ∧
    (tlsRead bufLen cs).2.flatten = (specRead bufLen cs.flatten).2 := by
  obtain ⟨_, hH, hB, _⟩ := gen_structure
  unfold tlsRead specRead
  by_cases hb : bufLen < 5
  · rw [if_pos ((gen_shortbuf bufLen).2 hb), if_pos hb]; exact ⟨rfl, rfl⟩
  · have hnb : ¬ tlsReadShortBuf (bufLen : Int) = true := fun h => hb ((gen_shortbuf bufLen).1 h)
    rw [if_neg hnb, if_neg hb, hH, hB]
    have h5 := (gen_hdr_len 0 (bufLen : Int)).2
    rw [h5]
    unfold readWith
    simp only [if_true]
    cases hr : readFull 5 cs with
    | none =>
      have := readFull_none hr
      rw [if_pos this]; exact ⟨rfl, rfl⟩
    | some pr =>
      obtain ⟨hdr, rest⟩ := pr
      obtain ⟨hlen, hhdr, hrest⟩ := readFull_some hr
      rw [if_neg (by omega)]
      simp only
      have hdl : declaredLen hdr = specLen cs.flatten := by rw [hhdr]; exact declaredLen_take5 _ hlen
      rw [hdl]
      by_cases hov : bufLen < specLen cs.flatten
      · rw [if_pos ((gen_oversize _ _).2 hov), if_pos hov]; exact ⟨rfl, hrest⟩
      · have hno : ¬ tlsReadOversize ((specLen cs.flatten : Nat) : Int) (bufLen : Int) = true :=
          fun h => hov ((gen_oversize _ _).1 h)
        rw [if_neg hno, if_neg hov, (gen_body_len _ _).2]
        cases hr2 : readFull (specLen cs.flatten) rest with
        | none =>
          have h2 := readFull_none hr2
          rw [hrest, List.length_drop] at h2
          rw [if_pos (by omega)]; exact ⟨rfl, rfl⟩
        | some pr2 =>
          obtain ⟨body, rest'⟩ := pr2
          obtain ⟨hlen2, hbody, hrest2⟩ := readFull_some hr2
          rw [hrest, List.length_drop] at hlen2
          rw [if_neg (by omega)]
          simp only
          refine ⟨?_, ?_⟩
          · rw [hbody, hrest]
          · rw [hrest2, hrest, List.drop_drop]

theorem readAll_spec : ∀ (bufs : List Nat) (cs : Chunks), readAll bufs cs = specAll bufs cs.flatten := by
  intro bufs
  induction bufs with
  | nil => intro cs; rfl
  | cons b bs ih =>
    intro cs
    simp only [readAll, specAll]
    rw [(tlsRead_spec b cs).1, ih, (tlsRead_spec b cs).2]

/-! ## 3. The property -/

/-- **C05 (segmentation independence).** The sequence of results of any number of reads — with any
caller buffer sizes, on ANY byte stream, well-formed or not, ending anywhere — depends only on the
concatenation of the chunks in which the stream arrives, not on the chunking. -/
theorem c05_seg_independent (bufs : List Nat) (cs cs' : Chunks) (h : cs.flatten = cs'.flatten) :
    readAll bufs cs = readAll bufs cs' := by
  rw [readAll_spec, readAll_spec, h]

example : readAll [8, 8, 8] [[23, 3, 3, 0, 2, 7, 8, 23, 3, 3, 0], [0, 23], [3, 3, 0, 1, 9]] =
          readAll [8, 8, 8] [[23], [3, 3, 0, 2, 7], [], [8, 23, 3, 3, 0, 0, 23, 3, 3, 0, 1, 9]] :=
  c05_seg_independent _ _ _ (by decide)

theorem hdrOf_length (n : Nat) : (hdrOf n).length = 5 := by
  unfold hdrOf; rw [gen_structure.2.2.2.2.2.2.1]; rfl

theorem record_length (m : Bytes) : (record m).length = 5 + m.length := by
  unfold record; rw [List.length_append, hdrOf_length]

theorem record_drop (m : Bytes) : (record m).drop 5 = m := by
  unfold record
  rw [List.drop_append, List.drop_of_length_le (by rw [hdrOf_length]; omega), hdrOf_length]; simp

theorem specLen_record (m tail : Bytes) (hm : m.length ≤ 16640) : specLen (record m ++ tail) = m.length := by
  unfold specLen record hdrOf
  rw [gen_structure.2.2.2.2.2.2.1]
  obtain ⟨hhi, hlo⟩ := gen_len_bytes m.length (by omega)
  rw [hhi, hlo]
  simp only [List.map_cons, List.map_nil, List.cons_append, List.nil_append, List.drop_succ_cons, List.drop_zero,
    List.take_succ_cons, List.take_zero, beNat, List.foldl_cons, List.foldl_nil, UInt8.toNat_ofNat']
  omega

theorem specRead_record (bufLen : Nat) (m tail : Bytes) (hm : m.length ≤ 16640) (hb : 5 ≤ bufLen) :
    (m.length ≤ bufLen → specRead bufLen (record m ++ tail) = (.ok m, tail)) ∧
    (bufLen < m.length → (specRead bufLen (record m ++ tail)).1 = .error .oversize) := by
  have hl := specLen_record m tail hm
  have hlen : (record m ++ tail).length = 5 + m.length + tail.length := by
    rw [List.length_append, record_length]
  have hd5 : (record m ++ tail).drop 5 = m ++ tail := by
    rw [List.drop_append, record_drop, record_length]
    have : 5 - (5 + m.length) = 0 := by omega
    rw [this, List.drop_zero]
  constructor
  · intro hfit
    unfold specRead
    rw [if_neg (by omega), if_neg (by omega), hl, if_neg (by omega), if_neg (by omega)]
    congr 1
    · rw [hd5]; simp
    · rw [← List.drop_drop, hd5]; simp
  · intro hbig
    unfold specRead
    rw [if_neg (by omega), if_neg (by omega), hl, if_pos hbig]

/-- messages paired with the buffer sizes of the reads that are to receive them: each message is within
the write limit and fits its reader's buffer (which has room for the 5-byte header) -/
inductive Fits : List Bytes → List Nat → Prop
  | nil : Fits [] []
  | cons {m : Bytes} {b : Nat} {ms : List Bytes} {bs : List Nat} :
      m.length ≤ 16640 → 5 ≤ b → m.length ≤ b → Fits ms bs → Fits (m :: ms) (b :: bs)

/-- **C05 (round trip).** Messages `ms` (each within the write limit, zero-length included) written one
`Write` each; the i-th read uses a buffer of `bufs[i] ≥ max 5 |ms[i]|` bytes.  Then under ANY chunking
of the resulting byte stream (followed by anything) the reads return exactly `ms`, one whole message
per read, in order. -/
theorem c05_roundtrip : ∀ (ms : List Bytes) (bufs : List Nat) (tail : Bytes) (cs : Chunks),
    Fits ms bufs →
    cs.flatten = (ms.map record).flatten ++ tail →
    readAll bufs cs = ms.map .ok := by
  intro ms bufs tail cs hf hcs
  rw [readAll_spec, hcs]
  clear hcs cs
  induction hf with
  | nil => rfl
  | @cons m b ms bufs h1 h2 h3 _ ih =>
    simp only [List.map_cons, List.flatten_cons, List.append_assoc, specAll]
    rw [(specRead_record b m _ h1 h2).1 h3]
    simp only [ih]

/-- the writer side accepts exactly the messages of at most 16640 bytes and emits `record m` in one write -/
theorem tlsWrite_eq (m : Bytes) : tlsWrite m = if m.length ≤ 16640 then some [record m] else none := by
  unfold tlsWrite pieces
  rw [gen_structure.2.2.2.2.2.2.2.2.1]
  by_cases h : m.length ≤ 16640
  · have : ¬ tlsWriteTooLong (m.length : Int) = true := fun h' => by have := (gen_toolong _).1 h'; omega
    simp [h, this]
  · have : tlsWriteTooLong (m.length : Int) = true := (gen_toolong _).2 (by omega)
    simp [h, this]

example : readAll [5, 16, 5] [[23, 3, 3, 0], [0, 23, 3, 3, 0, 2, 7], [8, 23, 3, 3, 0, 0]] = [.ok [], .ok [7, 8], .ok []] := by
  have := c05_roundtrip [[], [7, 8], []] [5, 16, 5] [] [[23, 3, 3, 0], [0, 23, 3, 3, 0, 2, 7], [8, 23, 3, 3, 0, 0]]
    (.cons (by decide) (by decide) (by decide) (.cons (by decide) (by decide) (by decide)
      (.cons (by decide) (by decide) (by decide) .nil))) (by decide)
  simpa using this

/-- **C05 (oversize).** A record whose declared length exceeds the reader's buffer is an error, whatever the
chunking; no data is delivered for it. -/
theorem c05_oversize (bufLen : Nat) (cs : Chunks) (hb : 5 ≤ bufLen) (h5 : 5 ≤ cs.flatten.length)
    (hbig : bufLen < specLen cs.flatten) : (tlsRead bufLen cs).1 = .error .oversize := by
  rw [(tlsRead_spec bufLen cs).1]
  unfold specRead
  rw [if_neg (by omega), if_neg (by omega), if_pos hbig]

/-- instance for written records: a message longer than the reader's buffer is reported, not truncated -/
theorem c05_oversize_record (bufLen : Nat) (m tail : Bytes) (cs : Chunks) (hm : m.length ≤ 16640) (hb : 5 ≤ bufLen)
    (hcs : cs.flatten = record m ++ tail) (hbig : bufLen < m.length) : (tlsRead bufLen cs).1 = .error .oversize := by
  rw [(tlsRead_spec bufLen cs).1, hcs]
  exact (specRead_record bufLen m tail hm hb).2 hbig

example : (tlsRead 6 [[23, 3], [3, 0, 7, 1, 2, 3, 4, 5, 6, 7]]).1 = .error .oversize :=
  c05_oversize 6 _ (by decide) (by decide) (by decide)

/-- **C05 (never truncated).** Whenever a read succeeds — on any stream, any chunking, any buffer — the data
returned is the complete body the header declares: exactly `declared length` bytes, the ones following the header. -/
theorem c05_no_truncation (bufLen : Nat) (cs : Chunks) (body : Bytes) (h : (tlsRead bufLen cs).1 = .ok body) :
    body.length = specLen cs.flatten ∧ body = (cs.flatten.drop 5).take (specLen cs.flatten) ∧ body.length ≤ bufLen := by
  rw [(tlsRead_spec bufLen cs).1] at h
  unfold specRead at h
  split at h
  · cases h
  · split at h
    · cases h
    · split at h
      · cases h
      · split at h
        · cases h
        · injection h with h
          subst h
          refine ⟨?_, rfl, ?_⟩ <;> (rw [List.length_take, List.length_drop]; omega)

/-! ### concurrent writers -/

/-- what writer `i` has put on the wire so far -/
def proj (i : Nat) (l : Log) : List Bytes := (l.filter (fun e => e.1 = i)).map (·.2)

theorem proj_append (i : Nat) (l l' : Log) : proj i (l ++ l') = proj i l ++ proj i l' := by
  simp [proj]

/-- conservation: for every writer, (already on the wire) ++ (still pending) never changes — whatever
the schedule, and for ANY number of underlying writes per message -/
theorem run_conserves : ∀ (sched : List Nat) (st : Pend × Log) (i : Nat),
    proj i (sched.foldl stepW st).2 ++ (sched.foldl stepW st).1 i = proj i st.2 ++ st.1 i := by
  intro sched
  induction sched with
  | nil => intro st i; rfl
  | cons j rest ih =>
    intro st i
    rw [List.foldl_cons, ih]
    unfold stepW
    cases hp : st.1 j with
    | nil => rfl
    | cons p ps =>
      simp only [proj_append]
      by_cases hij : i = j
      · subst hij; simp [proj, hp]
      · simp [proj, hij, Ne.symm hij]

def progOf (progs : List (List Bytes)) (i : Nat) : List Bytes :=
  match progs[i]? with
  | some p => p
  | none => []

/-- the messages of a program that `Write` accepts -/
def accepted (p : List Bytes) : List Bytes := p.filter (fun m => m.length ≤ 16640)

theorem pieces_one (m : Bytes) : pieces 1 m = if m.length ≤ 16640 then [record m] else [] := by
  unfold pieces
  by_cases h : m.length ≤ 16640
  · have : ¬ tlsWriteTooLong (m.length : Int) = true := fun h' => by have := (gen_toolong _).1 h'; omega
    simp [h, this]
  · have : tlsWriteTooLong (m.length : Int) = true := (gen_toolong _).2 (by omega)
    simp [h, this]

theorem pend_one (progs : List (List Bytes)) (i : Nat) :
    pendOf 1 progs i = (accepted (progOf progs i)).map record := by
  unfold pendOf progOf accepted
  cases progs[i]? with
  | none => rfl
  | some p =>
    simp only
    induction p with
    | nil => rfl
    | cons m ms ih =>
      rw [List.flatMap_cons, ih, pieces_one]
      by_cases h : m.length ≤ 16640 <;> simp [h, List.filter_cons]

/-- the statement, parametric in the number `k` of underlying writes per `TLSConn.Write` -/
def WritersOK (k : Nat) : Prop :=
  ∀ (progs : List (List Bytes)) (sched : List Nat),
    -- (1) every underlying write is one whole record of a message the writer's program contains
    (∀ e ∈ (runW (pendOf k progs) sched).2, ∃ m ∈ accepted (progOf progs e.1), e.2 = record m) ∧
    -- (2) per writer: (records already on the wire) ++ (records still to be written) is its program, in order
    (∀ i, ∃ done rest, accepted (progOf progs i) = done ++ rest ∧
        proj i (runW (pendOf k progs) sched).2 = done.map record ∧
        (runW (pendOf k progs) sched).1 i = rest.map record)

theorem writers_one : WritersOK 1 := by
  intro progs sched
  have hc : ∀ i, proj i (runW (pendOf 1 progs) sched).2 ++ (runW (pendOf 1 progs) sched).1 i
      = (accepted (progOf progs i)).map record := by
    intro i
    have := run_conserves sched (pendOf 1 progs, []) i
    simp only [proj, List.filter_nil, List.map_nil, List.nil_append] at this
    rw [← pend_one]; exact this
  have h2 : ∀ i, ∃ done rest, accepted (progOf progs i) = done ++ rest ∧
        proj i (runW (pendOf 1 progs) sched).2 = done.map record ∧
        (runW (pendOf 1 progs) sched).1 i = rest.map record := by
    intro i
    obtain ⟨d, r, h1, h2, h3⟩ := List.map_eq_append_iff.1 (hc i).symm
    exact ⟨d, r, h1, h2.symm, h3.symm⟩
  refine ⟨?_, h2⟩
  intro e he
  obtain ⟨d, r, h1, hp, _⟩ := h2 e.1
  have hmem : e.2 ∈ proj e.1 (runW (pendOf 1 progs) sched).2 := by
    unfold proj
    exact List.mem_map.2 ⟨e, List.mem_filter.2 ⟨he, by simp⟩, rfl⟩
  rw [hp] at hmem
  obtain ⟨m, hm, hme⟩ := List.mem_map.1 hmem
  exact ⟨m, by rw [h1]; exact List.mem_append_left _ hm, hme.symm⟩

/-- **C05 (concurrent writers).** With the number of underlying writes per `TLSConn.Write` that the source
contains (`Gen.Record.tlsWriteSingleWrite`, = 1), for ANY number of writer goroutines, ANY programs and ANY
schedule of the underlying writes: every write that hits the connection is one whole record, and each
writer's records appear in its program order (what is on the wire followed by what is pending is the program). -/
theorem c05_writers : WritersOK tlsWriteSingleWrite := by
  rw [gen_structure.2.2.2.2.2.2.2.2.1]; exact writers_one

/-- consequently the reader, under any chunking of the wire and with adequate buffers, gets back exactly
the messages that were written, whole, one per read, in wire order -/
theorem c05_writers_read (progs : List (List Bytes)) (sched : List Nat) (cs : Chunks) (tail : Bytes)
    (hcs : cs.flatten = wire (runW (pendOf tlsWriteSingleWrite progs) sched).2 ++ tail) :
    ∃ ms : List Bytes, (runW (pendOf tlsWriteSingleWrite progs) sched).2.map (·.2) = ms.map record ∧
      readAll (ms.map fun _ => 16640) cs = ms.map .ok := by
  have h1 := (c05_writers progs sched).1
  generalize (runW (pendOf tlsWriteSingleWrite progs) sched).2 = log at h1 hcs
  have hex : ∃ ms : List Bytes, log.map (·.2) = ms.map record ∧ ∀ m ∈ ms, m.length ≤ 16640 := by
    clear hcs
    induction log with
    | nil => exact ⟨[], rfl, by simp⟩
    | cons e l ih =>
      obtain ⟨ms, h, hl⟩ := ih (fun e' he' => h1 e' (List.mem_cons_of_mem _ he'))
      obtain ⟨m, hm, hme⟩ := h1 e (List.mem_cons_self ..)
      refine ⟨m :: ms, by simp [h, hme], ?_⟩
      intro x hx
      rcases List.mem_cons.1 hx with rfl | hx
      · have := (List.mem_filter.1 hm).2; simpa using this
      · exact hl x hx
  obtain ⟨ms, hms, hl⟩ := hex
  refine ⟨ms, hms, ?_⟩
  apply c05_roundtrip ms _ tail cs
  · clear hms
    induction ms with
    | nil => exact .nil
    | cons m ms ih =>
      have := hl m (List.mem_cons_self ..)
      exact .cons this (by show 5 ≤ 16640; decide) this (ih (fun x hx => hl x (List.mem_cons_of_mem _ hx)))
  · rw [hcs]; unfold wire; rw [hms]

example : (runW (pendOf 1 [[[1], [2, 2]], [[3]]]) [1, 0, 0, 1, 0]).2 = [(1, record [3]), (0, record [1]), (0, record [2, 2])] := by
  decide

/-- **Refutation for two underlying writes** (header and body written separately — the mutant of the
property's `why_tests_cant`): already a single writer violates clause (1), and with two writers the reader
is handed a "message" nobody wrote. -/
theorem c05_writers_witness2 : ¬ WritersOK 2 := by
  intro h
  obtain ⟨m, _, hm⟩ := (h [[[1]]] [0]).1 (0, hdrOf 1) (by decide)
  have hl := congrArg List.length hm
  rw [record_length, hdrOf_length] at hl
  have : m = [] := List.eq_nil_of_length_eq_zero (by omega)
  subst this
  revert hm; decide

theorem c05_writers_witness2_damage :
    readAll [16, 16] [wire (runW (pendOf 2 [[[1]], [[2]]]) [0, 1, 0, 1]).2] = [.ok [23], .error .oversize] := by
  decide

end C05

#print axioms C05.c05_seg_independent
#print axioms C05.c05_roundtrip
#print axioms C05.c05_oversize
#print axioms C05.c05_no_truncation
#print axioms C05.c05_writers
#print axioms C05.c05_writers_read
#print axioms C05.c05_writers_witness2
