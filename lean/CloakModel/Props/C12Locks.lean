import CloakModel.Props.C12Close
import CloakModel.Lemmas.LocksCore
import CloakModel.Gen.MuxLocks
import CloakModel.Gen.Valve

/-! # C12 — the multiplexing layer's own locks cannot deadlock

`tools/extract/facts_c12locks.go` walks every control-flow path of the operations an application goroutine, a
`deplex` goroutine or a timer can run in `internal/multiplex` (`Stream.Write/ReadFrom/Close/Read`,
`Session.OpenStream/Accept/Close/checkTimeout/AddConnection`, `switchboard.deplex`), callees inlined — over a
thousand paths — and emits their distinct ACQUISITION CONTEXTS (locks held, lock acquired) over the lock classes

  `W` = `Stream.writingM` (0)  `T` = `Session.streamsM` (1)  `R` = `streamBuffer.recvM` (2)
  `L` = the pipes' `rwCond.L` (3)  `N` = `switchboard.addConnM` (4).

Rank-orderedness for `W < T < R < L < N` is DECIDED on whatever was extracted (so adding, removing or reordering
lock operations is accepted exactly when it stays deadlock-free), and the generic theorem of C17
(`Locks.locks_rank_ordered_no_deadlock`) gives: no reachable state of any number of such operations is deadlocked —
the answer to "deadlocks between the stream table lock, the accept queue and the per-stream write lock".
Assumptions (stated, not proved): a loop body is counted once; `sync.Cond.Wait` (which releases and re-takes `L`)
returns. The one channel operation performed under `streamsM` (`acceptCh <- newStream`) is a non-blocking `select`
case since fix 31ee1ad (`Gen.Session.recvEnqueueNonBlocking`, `C12.c12_backlog_bounded`); before that fix it could
park the receive loop inside the critical section for ever — the red team's accept-backlog finding. 
Since /repo's fix 07566d1 `send` begins with a turnstile — a channel of capacity one around the broken test and the limiter's
wait. It is not a mutex and not in the rank order; `gen_send_prologue` pins what the argument needs: the prologue is exactly one
of the two known shapes, so while the turn is held no lock is taken and nothing blocks but the limiter's bounded sleep; a sender
arrives at it holding at most its stream's `writingM`. -/
set_option maxRecDepth 100000

namespace C12L

/-- `send`'s prologue is the bare `txWait` or the turnstile around it (`tools/extract/facts_glue.go: sendPrologue`): no lock
acquisition inside the turn -/
theorem gen_send_prologue : Gen.Valve.txWaitBeforeWrite = true := rfl

open Locks

/-- acquisition contexts of a program: for every acquisition, the locks held at that moment -/
def ctxs : List Nat → List Instr → List (List Nat × Nat)
  | _, [] => []
  | held, .acq l :: p => (held, l) :: ctxs (l :: held) p
  | held, .rel l :: p => ctxs (held.erase l) p

/-- well bracketed: releases what is held, ends with nothing held -/
def wb : List Nat → List Instr → Prop
  | held, [] => held = []
  | held, .acq l :: p => wb (l :: held) p
  | held, .rel l :: p => l ∈ held ∧ wb (held.erase l) p

/-- rank-orderedness is a property of the acquisition contexts (plus bracketing) -/
theorem ok_iff_ctx (rank : Nat → Nat) : ∀ (p : List Instr) (held : List Nat),
    ok rank held p ↔ (wb held p ∧ ∀ c ∈ ctxs held p, ∀ h ∈ c.1, rank h < rank c.2) := by
  intro p
  induction p with
  | nil => intro held; simp [ok, wb, ctxs]
  | cons i p ih =>
    intro held
    cases i with
    | acq l =>
      simp only [ok, wb, ctxs, List.mem_cons, ih (l :: held)]
      constructor
      · rintro ⟨h1, h2, h3⟩
        refine ⟨h2, ?_⟩
        intro c hc
        rcases hc with rfl | hc
        · exact h1
        · exact h3 c hc
      · rintro ⟨h1, h2⟩
        exact ⟨h2 (held, l) (Or.inl rfl), h1, fun c hc => h2 c (Or.inr hc)⟩
    | rel l =>
      simp only [ok, wb, ctxs, ih (held.erase l)]
      constructor
      · rintro ⟨h1, h2, h3⟩; exact ⟨⟨h1, h2⟩, h3⟩
      · rintro ⟨⟨h1, h2⟩, h3⟩; exact ⟨h1, h2, h3⟩

/-- rank = class: `W < T < R < L < N` -/
def rankMux : Nat → Nat := fun l => l % 5

/-- **the decided obligation**: in every extracted acquisition context every held lock ranks strictly below the lock
being acquired, all classes are the five known ones, and every path was well bracketed -/
theorem gen_rank_ordered :
    Gen.MuxLocks.lockContexts.all (fun c => c.1.all (fun h => decide (rankMux h < rankMux c.2)) && decide (c.2 < 5) && c.1.all (fun h => decide (h < 5))) = true ∧
    Gen.MuxLocks.lockPathsWellBracketed = true := by decide

/-- the extraction is not vacuous: the deepest nesting (`writingM`, `streamsM`, `recvM`, then the pipe lock — a failing
send tearing the session down from inside `Stream.Write`) is there, hundreds of paths were examined, and the one
channel send under `streamsM` is the known one -/
theorem gen_nontrivial :
    (([2, 1, 0], 3) ∈ Gen.MuxLocks.lockContexts) ∧ Gen.MuxLocks.lockPathCount ≥ 100 ∧
    Gen.MuxLocks.sendsUnderStreamsM = 1 := by decide

/-- a thread works on lock INSTANCES: the write mutex of stream `u`, the receive-side locks of stream `v`, the one
`streamsM` and `addConnM` of the session -/
def instMux (u v : Nat) : Nat → Nat := fun c =>
  if c % 5 = 0 then c + 5 * (u + 1) else if c % 5 = 2 ∨ c % 5 = 3 then c + 5 * (v + 1) else c

theorem rank_inst (u v c : Nat) : rankMux (instMux u v c) = rankMux c := by
  unfold rankMux instMux
  split
  · omega
  · split <;> omega

theorem rank_bound : ∀ l, rankMux l < 5 := by intro l; unfold rankMux; omega

/-- `instMux` keeps the class (`rank_inst`) and, within a class, adds a constant -/
theorem inst_inj (u v : Nat) : ∀ a b, instMux u v a = instMux u v b → a = b := by
  intro a b h
  have hr : a % 5 = b % 5 := by have := congrArg rankMux h; rwa [rank_inst, rank_inst] at this
  unfold instMux at h
  rw [← hr] at h
  split at h
  · omega
  · split at h <;> omega

/-- what the extractor guarantees about a path of the multiplexing layer: well bracketed, and every acquisition
happens in one of the extracted contexts -/
def FromSource (p : List Instr) : Prop :=
  wb [] p ∧ ∀ c ∈ ctxs [] p, c ∈ Gen.MuxLocks.lockContexts

theorem fromSource_ok (p : List Instr) (h : FromSource p) : ok rankMux [] p := by
  refine (ok_iff_ctx rankMux p []).2 ⟨h.1, fun c hc => ?_⟩
  have := List.all_eq_true.1 gen_rank_ordered.1 c (h.2 c hc)
  simp only [Bool.and_eq_true, List.all_eq_true, decide_eq_true_eq] at this
  exact this.1.1

/-- **C12 (lock order).** Any number of concurrent multiplexing operations — each a path of the kind the extractor
examined (well bracketed, every acquisition in an extracted context), working on the write mutex of some stream `u`,
the receive-side locks of some stream `v` and the session's own locks — under any schedule and any blocking discipline
in which a refused acquisition has a holder: no reachable state is deadlocked. -/
theorem c12_lock_order (D : Discipline) (s0 : List Thread)
    (h0 : ∀ t ∈ s0, t.held = [] ∧ ∃ p, FromSource p ∧ ∃ u v, t.prog = p.map (Instr.map (instMux u v)))
    (s : List Thread) (hr : Reach D s0 s) : ¬ Deadlocked D s := by
  refine renamed_no_deadlock D rankMux 5 rank_bound s0 (fun t ht => ?_) s hr
  obtain ⟨hh, p, hp, u, v, hprog⟩ := h0 t ht
  exact ⟨hh, p, instMux u v, fromSource_ok p hp, inst_inj u v, rank_inst u v, hprog⟩

/-- non-vacuity: the deepest real path shape (`Stream.Write` whose send fails and tears the session down) is `FromSource` -/
example : FromSource [.acq 0, .acq 1, .acq 2, .acq 3, .rel 3, .rel 2, .rel 1, .rel 0] := by
  refine ⟨by simp [wb], ?_⟩
  intro c hc
  simp only [ctxs, List.mem_cons] at hc
  rcases hc with rfl | rfl | rfl | rfl | hc
  · decide
  · decide
  · decide
  · decide
  · simp at hc

/-- what a lock-order inversion looks like to this obligation: taking `streamsM` first and a stream's `writingM`
inside it yields the context `([1], 0)`, which fails the rank test -/
example : ([1], 0) ∈ ctxs [] [.acq 1, .acq 0, .rel 0, .rel 1] ∧ ¬ (rankMux 1 < rankMux 0) := by decide

end C12L

#print axioms C12L.c12_lock_order
#print axioms C12L.gen_rank_ordered
#print axioms C12L.ok_iff_ctx
