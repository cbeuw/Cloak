import CloakModel.Props.C14
import CloakModel.Props.C04

/-! # End-to-end composition for datagram (UDP) mode (C14 ∘ C04)

The receive side of C14 fed with REAL WIRE MESSAGES.  The sending application hands datagram `d` to `Stream.Write` on an
unordered stream: `c14_oversize` says it leaves as exactly ONE frame whose payload is `d` (or is refused whole); the frame
is encoded by the codec of C04 (any of the four methods as a lawful cipher instance, any key, any sequence number, any
admissible padding draw and random tail); the network delivers the encoded messages of all streams in ANY global order,
interleaved with application reads and local closes on any streams; the receiver decodes each message (`deobfuscate`),
looks its stream up by the decoded id and writes the payload into that stream's datagram pipe.  `c04_roundtrip` turns the
run on wire messages into the run on frames (`wire_sim`); `c14_exactly_once` / `c14_isolation` finish: what the reads of
stream `sid` returned, followed by what its pipe still queues, is exactly the list of datagrams written to `sid`, each
whole, in arrival order — whatever happened on the other streams.

The table here is the table of the theorems (`Nat → Option Run`, the per-stream observer keeps every `Read` result);
`C14.sess_sim` relates it to the executable stream table the driver runs against the real session. -/
set_option linter.unusedVariables false

namespace E2EDg
open DG Codec

/-- `m` is what the sending endpoint puts on the wire for the frame `(sid, seq, closing, d)` -/
def IsEnc (C : Crypto) (key : Bytes) (sid seq : Nat) (closing : UInt8) (d m : Bytes) : Prop :=
  ∃ (bufLen padDraw : Nat) (rnd : Bytes),
    let cf : Codec.Frame := ⟨sid, seq, closing, d⟩
    sid < 2^32 ∧ seq < 2^64 ∧ 1 ≤ d.length ∧
    (padDraw : Int) < Gen.Codec.padBound (tagLenOf C) ∧
    rnd.length = padLenOf cf padDraw + tagLenOf C ∧ C04.fitsBuf C cf bufLen padDraw ∧
    obfuscate C key cf bufLen padDraw rnd = .ok m

/-- non-vacuity of `IsEnc`: for every lawful cipher, key, 32-bit stream id, 64-bit sequence number, closing byte, non-empty
payload, admissible padding draw and large-enough buffer there IS such a wire message -/
theorem isEnc_exists (C : Crypto) (hL : Lawful C) (key : Bytes) (sid seq : Nat) (closing : UInt8) (d : Bytes)
    (bufLen padDraw : Nat) (rnd : Bytes) (hsid : sid < 2^32) (hseq : seq < 2^64) (hpl : 1 ≤ d.length)
    (hdraw : (padDraw : Int) < Gen.Codec.padBound (tagLenOf C))
    (hrnd : rnd.length = padLenOf ⟨sid, seq, closing, d⟩ padDraw + tagLenOf C)
    (hbuf : C04.fitsBuf C ⟨sid, seq, closing, d⟩ bufLen padDraw) : ∃ m, IsEnc C key sid seq closing d m := by
  obtain ⟨msg, hm, _⟩ := C04.c04_roundtrip C hL key ⟨sid, seq, closing, d⟩ bufLen padDraw rnd hsid hseq hpl hdraw hrnd hbuf
  exact ⟨msg, bufLen, padDraw, rnd, hsid, hseq, hpl, hdraw, hrnd, hbuf, hm⟩

abbrev Tbl := Nat → Option C14.Run

/-- `recvDataFromRemote` in unordered mode: decode; a message that does not decode is dropped (C11); otherwise the frame is
routed by its decoded stream id (creating the stream) and written into that stream's pipe -/
def recvMsg (C : Crypto) (key : Bytes) (t : Tbl) (m : Bytes) : Tbl :=
  match deobfuscate C key m with
  | .ok fr => C14.gstep t ⟨fr.sid, .w fr.closing.toNat fr.payload, true⟩
  | _ => t

/-- what happens at the receiving endpoint: the network hands over a message the peer produced for a frame of stream
`sid`, the application reads stream `sid` with a buffer of `cap` bytes, or closes it locally -/
inductive NEv
  | msg (sid seq : Nat) (closing : UInt8) (d m : Bytes)
  | read (sid cap : Nat)
  | close (sid : Nat)

def NEv.ok (C : Crypto) (key : Bytes) : NEv → Prop
  | .msg sid seq closing d m => IsEnc C key sid seq closing d m
  | _ => True

def NEv.toG : NEv → C14.GEv
  | .msg sid _ closing d _ => ⟨sid, .w closing.toNat d, true⟩
  | .read sid cap => ⟨sid, .r cap, false⟩
  | .close sid => ⟨sid, .c, false⟩

def recvStep (C : Crypto) (key : Bytes) (t : Tbl) : NEv → Tbl
  | .msg _ _ _ _ m => recvMsg C key t m
  | .read sid cap => C14.gstep t ⟨sid, .r cap, false⟩
  | .close sid => C14.gstep t ⟨sid, .c, false⟩

/-- a message the peer made for a frame decodes to that frame (`c04_roundtrip`) -/
theorem isEnc_deobf (C : Crypto) (hL : Lawful C) (key : Bytes) (sid seq : Nat) (closing : UInt8) (d m : Bytes)
    (h : IsEnc C key sid seq closing d m) : deobfuscate C key m = .ok ⟨sid, seq, closing, d⟩ := by
  obtain ⟨bufLen, padDraw, rnd, hsid, hseq, hpl, hdraw, hrnd, hbuf, hobf⟩ := h
  obtain ⟨msg, hm, hd⟩ := C04.c04_roundtrip C hL key ⟨sid, seq, closing, d⟩ bufLen padDraw rnd hsid hseq hpl hdraw hrnd hbuf
  cases hobf.symm.trans hm
  exact hd

theorem recv_enc (C : Crypto) (hL : Lawful C) (key : Bytes) (sid seq : Nat) (closing : UInt8) (d m : Bytes)
    (h : IsEnc C key sid seq closing d m) (t : Tbl) :
    recvMsg C key t m = C14.gstep t ⟨sid, .w closing.toNat d, true⟩ := by
  unfold recvMsg
  rw [isEnc_deobf C hL key sid seq closing d m h]

/-- the run on wire messages is the run on the frames they encode -/
theorem wire_sim (C : Crypto) (hL : Lawful C) (key : Bytes) : ∀ (evs : List NEv) (t : Tbl),
    (∀ e ∈ evs, e.ok C key) → evs.foldl (recvStep C key) t = (evs.map NEv.toG).foldl C14.gstep t := by
  intro evs t h
  rw [List.foldl_map]
  refine List.foldl_rel (r := Eq) rfl (fun e he t _ ht => ?_)
  subst ht
  cases e with
  | msg sid seq closing d m => exact recv_enc C hL key sid seq closing d m (h _ he) t
  | read sid cap => rfl
  | close sid => rfl

/-- the datagrams the peer sent on stream `sid`, in the order their messages arrived -/
def sentTo (sid : Nat) : List NEv → List Bytes
  | [] => []
  | .msg s _ _ d _ :: r => if s = sid then d :: sentTo sid r else sentTo sid r
  | _ :: r => sentTo sid r

theorem payloads_proj (sid : Nat) : ∀ evs : List NEv,
    C14.payloads (DgDemux.proj sid (evs.map NEv.toG)) = sentTo sid evs := by
  intro evs
  induction evs with
  | nil => rfl
  | cons e r ih =>
    cases e with
    | msg s seq c d m => by_cases h : s = sid <;> simpa [DgDemux.proj, NEv.toG, h, sentTo, C14.payloads] using ih
    | read s cap => by_cases h : s = sid <;> simpa [DgDemux.proj, NEv.toG, h, sentTo, C14.payloads] using ih
    | close s => by_cases h : s = sid <;> simpa [DgDemux.proj, NEv.toG, h, sentTo, C14.payloads] using ih

/-- an event that keeps stream `sid` open: not addressed to it, or a data message (closing byte 0), or a read -/
def KeepsOpen (sid : Nat) : NEv → Prop
  | .msg s _ closing _ _ => s = sid → closing = 0
  | .read _ _ => True
  | .close s => s ≠ sid

theorem open_proj (sid : Nat) : ∀ evs : List NEv, (∀ e ∈ evs, KeepsOpen sid e) →
    ∀ g ∈ DgDemux.proj sid (evs.map NEv.toG), C14.OpenEv g := by
  intro evs h g hg
  simp only [DgDemux.proj, List.mem_filter, List.mem_map, decide_eq_true_eq] at hg
  obtain ⟨⟨e, he, heg⟩, hsid⟩ := hg
  have hk := h e he
  subst heg
  cases e with
  | msg s seq c d m =>
    simp only [NEv.toG] at hsid
    have : c = 0 := hk hsid
    subst this
    simp [C14.OpenEv, NEv.toG]
  | read s cap => simp [C14.OpenEv, NEv.toG]
  | close s =>
    simp only [NEv.toG] at hsid
    exact absurd hsid hk

/-- the sending half: on an unordered stream whose per-frame maximum is `max`, `Stream.Write d` of a non-empty datagram
that fits puts exactly one frame on the wire, and its payload is `d`; a longer one puts nothing (restating `c14_oversize`,
so that the two halves are read together) -/
theorem sender_one_frame (max : Int) (d : Bytes) (hpos : 0 < d.length) :
    ((d.length : Int) ≤ max → swrite true max d = ([d], .ok)) ∧
    ((d.length : Int) > max → swrite true max d = ([], .errShortBuffer)) :=
  ⟨fun h => (C14.c14_oversize max d).2 hpos h, fun h => (C14.c14_oversize max d).1 h hpos⟩

/-- **C14 end to end (exactly once, whole, while the stream stays open).**  Messages of any number of streams, each the
encoding — under ANY lawful cipher instance and key, with ANY sequence number and admissible padding — of one frame,
arrive in ANY global order, interleaved with reads (any buffer sizes) and local closes on any streams.  If nothing closes
stream `sid` (its messages carry closing byte 0, no local close), then whenever `sid` exists at the receiver: its pipe is
open, and the datagrams its reads returned (in order) followed by the datagrams still queued in its pipe are EXACTLY the
datagrams sent on `sid`, in their arrival order: each comes out once, whole, unmixed with any other stream's. -/
theorem c14_end_to_end (C : Crypto) (hL : Lawful C) (key : Bytes) (sid : Nat) (evs : List NEv)
    (hok : ∀ e ∈ evs, e.ok C key) (hopen : ∀ e ∈ evs, KeepsOpen sid e) :
    ∀ s, (evs.foldl (recvStep C key) (fun _ => none)) sid = some s →
      s.p.closed = false ∧
      ∃ q, C14.dataOf s.outs ++ q = sentTo sid evs ∧ s.p.lens = q.map List.length ∧ s.p.buf = q.flatten := by
  intro s hs
  rw [wire_sim C hL key evs _ hok] at hs
  have := C14.c14_exactly_once (evs.map NEv.toG) sid (open_proj sid evs hopen) s hs
  rw [payloads_proj] at this
  exact this

/-- **C14 end to end (isolation, every reachable state, closes included).**  With no assumption on what closes when: what
stream `sid`'s reads returned followed by what its pipe queues is what the pipe accepted, and that is a subsequence — in
order — of the datagrams sent on `sid`.  No byte of another stream's datagram can appear, and no datagram is split,
merged or repeated. -/
theorem c14_end_to_end_isolation (C : Crypto) (hL : Lawful C) (key : Bytes) (sid : Nat) (evs : List NEv)
    (hok : ∀ e ∈ evs, e.ok C key) :
    ∀ s, (evs.foldl (recvStep C key) (fun _ => none)) sid = some s →
      (∃ q, C14.dataOf s.outs ++ q = s.acc ∧ s.p.lens = q.map List.length ∧ s.p.buf = q.flatten) ∧
      s.acc.Sublist (sentTo sid evs) := by
  intro s hs
  rw [wire_sim C hL key evs _ hok] at hs
  have := (C14.c14_isolation (evs.map NEv.toG) sid).2 s hs
  rw [payloads_proj] at this
  exact this

/-- a message that does not decode (garbage, a foreign key, a modified body) changes no stream: the run is the run without it -/
theorem undecodable_dropped (C : Crypto) (key : Bytes) (t : Tbl) (m : Bytes)
    (h : ∀ fr, deobfuscate C key m ≠ .ok fr) : recvMsg C key t m = t := by
  unfold recvMsg
  cases hd : deobfuscate C key m with
  | ok fr => exact absurd hd (h fr)
  | _ => rfl

/-! ### the hypotheses are satisfiable

The executable toy cipher of `Props/C04.lean` (with its AEAD): streams 7 and 9, two datagrams on 7 with one of 9's in
between, a too-small read, then adequate reads. -/
namespace Witness
open C04

def rndOf (sid seq : Nat) (d : Bytes) : Bytes := List.replicate (padLenOf ⟨sid, seq, 0, d⟩ 0 + tagLenOf toy) 1

def enc (sid seq : Nat) (d : Bytes) : Bytes :=
  match obfuscate toy [] ⟨sid, seq, 0, d⟩ 16401 0 (rndOf sid seq d) with
  | .ok m => m
  | _ => []

def wevs : List NEv :=
  [.msg 7 5 0 [1, 2, 3] (enc 7 5 [1, 2, 3]), .msg 9 0 0 [9, 9] (enc 9 0 [9, 9]), .read 7 2,
   .msg 7 2 0 [4] (enc 7 2 [4]), .read 7 3, .read 9 16]

/-- every `enc` is a genuine wire message: `c04_roundtrip` for the toy cipher says `obfuscate` succeeds, so nothing is evaluated
but the buffer test -/
theorem enc_isEnc (sid seq : Nat) (d : Bytes) (hsid : sid < 2^32) (hseq : seq < 2^64) (hpl : 1 ≤ d.length)
    (hbuf : fitsBuf toy ⟨sid, seq, 0, d⟩ 16401 0) : IsEnc toy [] sid seq 0 d (enc sid seq d) := by
  have hdraw : ((0 : Nat) : Int) < Gen.Codec.padBound (tagLenOf toy) := by decide
  have hrnd : (rndOf sid seq d).length = padLenOf ⟨sid, seq, 0, d⟩ 0 + tagLenOf toy := List.length_replicate
  obtain ⟨msg, hm, _⟩ := c04_roundtrip toy toy_lawful [] ⟨sid, seq, 0, d⟩ 16401 0 (rndOf sid seq d) hsid hseq hpl hdraw hrnd hbuf
  exact ⟨16401, 0, rndOf sid seq d, hsid, hseq, hpl, hdraw, hrnd, hbuf, by rw [enc, hm]⟩

theorem wevs_ok : ∀ e ∈ wevs, e.ok toy [] := by
  intro e he
  simp only [wevs, List.mem_cons, List.mem_nil_iff, or_false] at he
  rcases he with h | h | h | h | h | h <;> subst h
  · exact enc_isEnc 7 5 [1, 2, 3] (by decide) (by decide) (by decide) (by unfold C04.fitsBuf; decide)
  · exact enc_isEnc 9 0 [9, 9] (by decide) (by decide) (by decide) (by unfold C04.fitsBuf; decide)
  · trivial
  · exact enc_isEnc 7 2 [4] (by decide) (by decide) (by decide) (by unfold C04.fitsBuf; decide)
  · trivial
  · trivial

theorem wevs_open : ∀ e ∈ wevs, KeepsOpen 7 e := by
  intro e he
  simp only [wevs, List.mem_cons, List.mem_nil_iff, or_false] at he
  rcases he with h | h | h | h | h | h <;> subst h <;> simp [KeepsOpen]

/-- the run of the witness on the wire messages themselves: stream 7 answered `short`, then `[1,2,3]` whole, and still
queues `[4]`; stream 9 returned its own datagram -/
example :
    ((wevs.foldl (recvStep toy []) (fun _ => none)) 7).map (fun s => (s.outs, s.p.lens, s.p.buf)) =
      some ([.short, .data [1, 2, 3]], [1], [4]) ∧
    ((wevs.foldl (recvStep toy []) (fun _ => none)) 9).map (fun s => s.outs) = some [.data [9, 9]] := by
  constructor <;> decide

end Witness

end E2EDg

#print axioms E2EDg.c14_end_to_end
#print axioms E2EDg.c14_end_to_end_isolation
#print axioms E2EDg.wire_sim
