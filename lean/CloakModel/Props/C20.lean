import CloakModel.Lemmas.ClientConfig
import CloakModel.Lemmas.Ssv
import CloakModel.Lemmas.GenBridge

/-! # C20 — Client configuration is honoured exactly as documented, in both input syntaxes

* `Spec.processDoc` — the documented meaning and default of every client option, transcribed from
  `README.md` (section "Client" of "Configuration") and `example_config/ckclient.json`; it mentions no `Gen` term.
* `gen_structure` — order of the mandatory-field checks, which plain fields are copied where, that the
  three switches lower-case their tag, that nothing assigns `remote.KeepAlive` before the KeepAlive
  statement, what `cmd/ck-client` hands to `net.Dialer`.
* `c20_doc` — for every raw configuration (any `strings.ToLower`), the model of `ProcessRawConfig` built
  from the *extracted* conditions, right-hand sides, tables and literals equals `Spec.processDoc`.
  **Fails on the pinned tree** (`remote.KeepAlive = remote.KeepAlive * time.Second`), see `pinned_keepalive`.
* `c20_reject` — each missing mandatory field, a public key that is not 32 bytes, an unknown method ⇒ error.
  (`processRaw` is total and has no panic outcome.)
* `c20_ssv_partial` — the option-string front end `ssvToJson` on the escaping alphabet plugin hosts use;
  `c20_ssv_full` (values may contain `;`, escaped `\;`) is **false**: `c20_ssv_witness` (open finding).
* `c20_load_total` — the parse step: every JSON document (`null`, non-objects, `{}`) ends in an error or a
  configuration, never in a nil configuration (**fails on the tree that unmarshals into `&raw`**: `pinned_null_crashes`).
* `c20_no_crash_full` / `_partial` / `_witness` — first connection with an accepted configuration: a small-order
  `PublicKey` is accepted and panics (open finding).
* `c20_random_full` / `_partial` / `_witness` — `ServerName = random` is randomised by the direct transport only (open finding). -/
set_option linter.unusedSimpArgs false
set_option linter.unusedVariables false

namespace C20
open CC GoInt

/-! ## 1. The documentation, as a function -/

namespace Spec

/-- README: "Options are `plain`, `aes-256-gcm` (synonymous to `aes-gcm`), `aes-128-gcm`, and
`chacha20-poly1305`"; the numbers are the wire values `mux.EncryptionMethod*` (C04/C06). -/
def methods : List (String × Nat) :=
  [("plain", 0), ("aes-256-gcm", 1), ("aes-gcm", 1), ("aes-128-gcm", 3), ("chacha20-poly1305", 2)]

def second : Int := 1000000000

/-- README: `BrowserSig` — "Currently, `chrome`, `firefox` and `safari` are supported"; anything else, or nothing, is chrome -/
def browser (name : String) : String :=
  if name = "firefox" then "firefox" else if name = "safari" then "safari" else "chrome"

def processDoc (lower : String → String) (raw : RawConfig) : Option Cfg :=
  -- ServerName, ProxyMethod, UID, PublicKey (a curve25519 key: 32 bytes), the two addresses: mandatory
  if raw.serverName = "" ∨ raw.proxyMethod = "" ∨ raw.uid = [] ∨ raw.publicKey.length ≠ 32 ∨
     raw.remoteHost = "" ∨ raw.remotePort = "" ∨ raw.localHost = "" ∨ raw.localPort = "" then none
  else match caseOf methods (lower raw.encryptionMethod) with
  | none => none
  | some enc => some {
      localAddr := joinHostPort raw.localHost raw.localPort
      -- "`StreamTimeout` is the number of seconds ..."; 300 when unset
      timeout := if raw.streamTimeout = 0 then 300 * second else raw.streamTimeout * second
      -- "`AlternativeNames` is an array used alongside `ServerName`"; empty names are ignored
      mockDomainList := raw.alternativeNames.filter (fun n => n ≠ "") ++ [raw.serverName]
      -- "`NumConn` is the amount of underlying TCP connections ... Setting it to 0 will disable connection
      -- multiplexing and each TCP connection will spawn a separate short-lived session"
      singleplex := decide (raw.numConn ≤ 0)
      numConn := if raw.numConn ≤ 0 then 1 else raw.numConn
      -- "`KeepAlive` is the number of seconds ... Zero or negative value disables it" (net.Dialer: negative = disabled)
      keepAlive := if raw.keepAlive > 0 then raw.keepAlive * second else -1
      remoteAddr := joinHostPort raw.remoteHost raw.remotePort
      -- "`Transport` can be either `direct` or `CDN`"; `CDNOriginHost` "If unset, it will default to the remote
      -- hostname"; `CDNWsUrlPath` "If unset, it will default to \"/\""
      transport :=
        if lower raw.transport = "cdn" then
          .cdn ("ws://" ++ joinHostPort (if raw.cdnOriginHost = "" then raw.remoteHost else raw.cdnOriginHost) raw.remotePort
                ++ (if raw.cdnWsUrlPath = "" then "/" else raw.cdnWsUrlPath))
        else .direct (browser (lower raw.browserSig))
      uid := raw.uid
      proxyMethod := raw.proxyMethod
      encryptionMethod := enc
      unordered := raw.udp
      serverPubKey := raw.publicKey
      mockDomain := raw.serverName }

end Spec

/-! ## 2. Facts regenerated from the source -/

theorem gen_structure :
    Gen.ClientCfg.earlyReturns =
      [("raw.ServerName == \"\"", "empty:ServerName"), ("raw.ProxyMethod == \"\"", "empty:ServerName"),
       ("len(raw.UID) == 0", "empty:UID"), ("len(raw.PublicKey) == 0", "empty:PublicKey"),
       ("!ok", "error:failed to unmarshal Public key"), ("switch strings.ToLower(raw.EncryptionMethod)", "default"),
       ("raw.RemoteHost == \"\"", "empty:RemoteHost"), ("raw.RemotePort == \"\"", "empty:RemotePort"),
       ("raw.LocalHost == \"\"", "empty:LocalHost"), ("raw.LocalPort == \"\"", "empty:LocalPort")] ∧
    Gen.ClientCfg.assigns =
      [("auth.UID", "raw.UID"), ("auth.Unordered", "raw.UDP"), ("auth.MockDomain", "raw.ServerName"),
       ("raw.AlternativeNames", "filteredAlternativeNames"), ("local.MockDomainList", "raw.AlternativeNames"),
       ("local.MockDomainList", "append(local.MockDomainList, auth.MockDomain)"), ("auth.ProxyMethod", "raw.ProxyMethod"),
       ("auth.ServerPubKey", "pub"), ("remote.RemoteAddr", "net.JoinHostPort(raw.RemoteHost, raw.RemotePort)"),
       ("local.LocalAddr", "net.JoinHostPort(raw.LocalHost, raw.LocalPort)")] ∧
    Gen.ClientCfg.methodLowered = true ∧ Gen.ClientCfg.methodDefaultIsError = true ∧
    Gen.ClientCfg.transportLowered = true ∧ Gen.ClientCfg.browserLowered = true ∧
    Gen.ClientCfg.cdnHostPort = ["raw.CDNOriginHost == \"\"", "raw.RemoteHost", "raw.RemotePort", "raw.CDNOriginHost", "raw.RemotePort"] ∧
    Gen.ClientCfg.cdnPathDefaultWhenEmpty = true ∧
    Gen.ClientCfg.keepAliveEarlierAssignments = 0 ∧
    Gen.ClientCfg.processResultNames = ["localConfig", "remoteConfig", "authInfo"] ∧
    Gen.ClientCfg.dialerKeepAliveArg = "remoteConfig.KeepAlive" ∧
    Gen.ClientCfg.ssvUnescapeChained = true ∧ Gen.ClientCfg.ssvShape = true ∧
    Gen.ClientCfg.parseIsSsvCond = "strings.Contains(conf, \";\") && strings.Contains(conf, \"=\")" := by
  and_intros <;> rfl

/-- the extracted numeric pieces mean what the documentation says -/
theorem gen_numeric (ka st nc : Int) :
    (Gen.ClientCfg.keepAliveOffCond ka = true ↔ ka ≤ 0) ∧
    Gen.ClientCfg.keepAliveOffVal ka 0 = -1 ∧
    (Gen.ClientCfg.timeoutDefaultCond st = true ↔ st = 0) ∧
    Gen.ClientCfg.timeoutDefaultVal st = 300 * 1000000000 ∧
    Gen.ClientCfg.timeoutVal st = st * 1000000000 ∧
    (Gen.ClientCfg.singleplexCond nc = true ↔ nc ≤ 0) ∧
    Gen.ClientCfg.numConnThen nc = 1 ∧ Gen.ClientCfg.singleplexThen = true ∧
    Gen.ClientCfg.numConnElse nc = nc ∧ Gen.ClientCfg.singleplexElse = false := by
  unfold Gen.ClientCfg.keepAliveOffCond Gen.ClientCfg.keepAliveOffVal
    Gen.ClientCfg.timeoutDefaultCond Gen.ClientCfg.timeoutDefaultVal Gen.ClientCfg.timeoutVal
    Gen.ClientCfg.singleplexCond Gen.ClientCfg.numConnThen Gen.ClientCfg.singleplexThen
    Gen.ClientCfg.numConnElse Gen.ClientCfg.singleplexElse
  refine ⟨?_, ?_, ?_, ?_, ?_, ?_, ?_, ?_, ?_, ?_⟩ <;> gen_bool

/-- UDP mode rejects an invalid local address like TCP mode does (before /repo's fix the error of `net.ResolveUDPAddr` was
dropped and ck-client listened on a random port of every interface: `LocalPort = 80800` with `UDP = true`) -/
theorem gen_udp_local_addr : Gen.ClientCfg.udpLocalAddrErrorChecked = true := by decide

/-- **a positive `KeepAlive` of N seconds becomes N seconds**: the right-hand side of the assignment, with the
destination field still at its zero value, is `N · 10⁹` ns.  (Fails on the pinned tree, whose right-hand
side multiplies the destination field.) -/
theorem gen_keepalive (ka : Int) : Gen.ClientCfg.keepAliveOnVal ka 0 = ka * 1000000000 := by
  unfold Gen.ClientCfg.keepAliveOnVal; gen_bool

theorem gen_pubkey (n : Nat) : Gen.ClientCfg.pubKeyRejected (n : Int) = true ↔ n ≠ 32 := by
  unfold Gen.ClientCfg.pubKeyRejected; gen_bool

theorem gen_altname (n : Nat) : Gen.ClientCfg.altNameKept (n : Int) = true ↔ 0 < n := by
  unfold Gen.ClientCfg.altNameKept; gen_bool

/-- the switch tables and string literals are the documented ones -/
theorem gen_tables :
    (∀ s, caseOf Gen.ClientCfg.methodCases s = caseOf Spec.methods s) ∧
    Gen.ClientCfg.transportCases = [("cdn", "cdn"), ("direct", "direct")] ∧ Gen.ClientCfg.transportDefault = "direct" ∧
    Gen.ClientCfg.browserCases = [("firefox", "firefox"), ("safari", "safari"), ("chrome", "chrome")] ∧
    Gen.ClientCfg.browserDefault = "chrome" ∧ Gen.ClientCfg.cdnPathDefault = "/" ∧
    (∀ h p, Gen.ClientCfg.wsUrl h p = "ws://" ++ h ++ p) := by
  refine ⟨fun s => ?_, rfl, rfl, rfl, rfl, rfl, fun h p => rfl⟩
  -- the source lists `aes-gcm` before `aes-256-gcm`, the README after it: both stand for 1
  unfold Gen.ClientCfg.methodCases Spec.methods
  rw [caseOf, caseOf.eq_2 s "plain", caseOf_swap_same]

/-! ## 3. The processed configuration is the documented one -/

/-- the two durations are representable as a `time.Duration` (|N| below ~292 years): otherwise Go's
multiplication wraps, which the model mirrors and the documentation does not discuss -/
def Fits (raw : RawConfig) : Prop :=
  In64 (raw.keepAlive * 1000000000) ∧ In64 (raw.streamTimeout * 1000000000)

/-- forget which error was reported -/
def accepted : Except Err Cfg → Option Cfg
  | .ok c => some c
  | .error _ => none

theorem keepAliveWith_pos (onVal : Int → Int → Int) (raw : RawConfig) (h : 0 < raw.keepAlive) :
    keepAliveWith onVal raw = wrap64 (onVal raw.keepAlive 0) :=
  if_neg fun e => absurd ((gen_numeric raw.keepAlive 0 0).1.mp e) (by omega)

theorem keepAlive_doc (raw : RawConfig) (hf : Fits raw) :
    keepAliveOf raw = if raw.keepAlive > 0 then raw.keepAlive * Spec.second else -1 := by
  by_cases h : raw.keepAlive > 0
  · rw [if_pos h, keepAliveOf, keepAliveWith_pos _ _ h, gen_keepalive]; exact wrap64_id _ hf.1
  · obtain ⟨c, v, _⟩ := gen_numeric raw.keepAlive 0 0
    rw [if_neg h, keepAliveOf, keepAliveWith, if_pos (c.mpr (by omega)), v]; exact wrap64_id _ (by unfold In64; omega)

theorem timeout_doc (raw : RawConfig) (hf : Fits raw) :
    timeoutOf raw = if raw.streamTimeout = 0 then 300 * Spec.second else raw.streamTimeout * Spec.second := by
  obtain ⟨_, _, c, d, v, _⟩ := gen_numeric 0 raw.streamTimeout 0
  unfold timeoutOf
  by_cases h : raw.streamTimeout = 0
  · rw [if_pos (c.mpr h), d, if_pos h]; unfold Spec.second; exact wrap64_id _ (by unfold In64; omega)
  · have hc : ¬ Gen.ClientCfg.timeoutDefaultCond raw.streamTimeout = true := fun e => h (c.mp e)
    rw [if_neg hc, v, if_neg h]; exact wrap64_id _ hf.2

theorem numConn_doc (raw : RawConfig) :
    numConnOf raw = (if raw.numConn ≤ 0 then 1 else raw.numConn, decide (raw.numConn ≤ 0)) := by
  obtain ⟨_, _, _, _, _, c, t1, t2, e1, e2⟩ := gen_numeric 0 0 raw.numConn
  unfold numConnOf
  by_cases h : raw.numConn ≤ 0
  · rw [if_pos (c.mpr h), t1, t2]; simp [h]
  · have hc : ¬ Gen.ClientCfg.singleplexCond raw.numConn = true := fun e => h (c.mp e)
    rw [if_neg hc, e1, e2]; simp [h]

theorem altKept_iff (n : String) : Gen.ClientCfg.altNameKept ((n.utf8ByteSize : Nat) : Int) = true ↔ n ≠ "" := by
  rw [gen_altname, Nat.pos_iff_ne_zero]
  exact not_congr String.utf8ByteSize_eq_zero_iff

theorem mockList_doc (raw : RawConfig) :
    mockList raw = raw.alternativeNames.filter (fun n => n ≠ "") ++ [raw.serverName] := by
  unfold mockList
  congr 1
  apply List.filter_congr
  intro n _
  rw [Bool.eq_iff_iff]
  simpa using altKept_iff n

theorem transport_doc (lower : String → String) (raw : RawConfig) :
    transportOf lower raw =
      if lower raw.transport = "cdn" then
        .cdn ("ws://" ++ joinHostPort (if raw.cdnOriginHost = "" then raw.remoteHost else raw.cdnOriginHost) raw.remotePort
              ++ (if raw.cdnWsUrlPath = "" then "/" else raw.cdnWsUrlPath))
      else .direct (Spec.browser (lower raw.browserSig)) := by
  -- both switches become the documented `if`s label by label, no case split on the labels
  simp only [transportOf, transportOf.match_getD, Gen.ClientCfg.transportCases, Gen.ClientCfg.transportDefault,
    Gen.ClientCfg.browserCases, Gen.ClientCfg.browserDefault, caseOf_getD_cons, caseOf_getD_nil, ite_self, Spec.browser]
  by_cases h : lower raw.transport = "cdn"
  · simp only [h, if_true, Gen.ClientCfg.wsUrl, Gen.ClientCfg.cdnPathDefault]
    split <;> rfl
  · simp [h]

theorem accepted_eq_some {x : Except Err Cfg} {c : Cfg} : accepted x = some c ↔ x = .ok c := by
  cases x <;> simp [accepted]

theorem accepted_ite_error {p : Prop} [Decidable p] (e : Err) (x : Except Err Cfg) :
    accepted (if p then .error e else x) = if p then none else accepted x := by
  split <;> rfl

theorem ite_or_none {α} {p q : Prop} [Decidable p] [Decidable q] (x : Option α) :
    (if p ∨ q then none else x) = if p then none else if q then none else x := by
  by_cases p <;> simp [*]

/-- `ProcessRawConfig` in one equation: the early returns, in source order, amount to "a mandatory field is missing"
(which error is reported is forgotten; the empty-key test is subsumed by the length test), the method is looked up
in the documented table, and `ka` is as in `processRawK`.  Everything said below about `processRawK` goes through this. -/
theorem accepted_processRawK (ka : RawConfig → Int) (lower : String → String) (raw : RawConfig) :
    accepted (processRawK ka lower raw) =
      if raw.serverName = "" ∨ raw.proxyMethod = "" ∨ raw.uid = [] ∨ raw.publicKey.length ≠ 32 ∨
         raw.remoteHost = "" ∨ raw.remotePort = "" ∨ raw.localHost = "" ∨ raw.localPort = "" then none
      else match caseOf Spec.methods (lower raw.encryptionMethod) with
      | none => none
      | some enc => some {
          localAddr := joinHostPort raw.localHost raw.localPort, timeout := timeoutOf raw, mockDomainList := mockList raw,
          singleplex := (numConnOf raw).2, numConn := (numConnOf raw).1, keepAlive := ka raw,
          remoteAddr := joinHostPort raw.remoteHost raw.remotePort, transport := transportOf lower raw, uid := raw.uid,
          proxyMethod := raw.proxyMethod, encryptionMethod := enc, unordered := raw.udp, serverPubKey := raw.publicKey,
          mockDomain := raw.serverName } := by
  unfold processRawK
  -- `accepted` goes through the early returns one by one
  cases hm : caseOf Spec.methods (lower raw.encryptionMethod) with
  | none =>
    simp only [gen_tables.1, hm, accepted_ite_error]
    simp [accepted]
  | some enc =>
    simp only [gen_tables.1, hm, accepted_ite_error, ite_or_none, gen_pubkey, List.length_eq_zero_iff]
    by_cases h : raw.publicKey.length = 32
    · -- the test for an empty key is subsumed by the length test
      have hne : raw.publicKey ≠ [] := fun e => by simp [e] at h
      simp [h, hne, accepted]
    · simp [h]

/-- **C20 (documented behaviour).** For every raw configuration whose two durations are representable, and
whatever `strings.ToLower` does, `ProcessRawConfig` (the model assembled from the extracted conditions,
right-hand sides, switch tables and literals) accepts exactly the configurations the documentation calls
complete, and yields exactly the documented processed values: `NumConn ≤ 0` ⇒ one connection per stream;
`KeepAlive = N > 0` ⇒ a period of N seconds, otherwise disabled; `StreamTimeout` seconds with default 300;
`Transport`/`BrowserSig` case-insensitively with defaults direct/chrome; CDN host and path defaults;
empty alternative names dropped and `ServerName` appended; the five method names. -/
theorem c20_doc (lower : String → String) (raw : RawConfig) (hf : Fits raw) :
    accepted (processRaw lower raw) = Spec.processDoc lower raw := by
  rw [processRaw, accepted_processRawK, keepAlive_doc raw hf, timeout_doc raw hf, numConn_doc raw, mockList_doc raw,
    transport_doc lower raw]
  rfl

/-- a `lower` good enough for the example below -/
def demoLower (s : String) : String :=
  if s = "AES-GCM" then "aes-gcm" else if s = "CDN" then "cdn" else if s = "Safari" then "safari" else s

/-- non-vacuity: a complete configuration in mixed case with a keep-alive, a CDN transport, an IPv6 host and an
empty alternative name satisfies `Fits` and gets the documented values -/
example :
    let raw : RawConfig := ⟨"bing.com", "ss", "AES-GCM", [1], List.replicate 32 7, 0, "127.0.0.1", "1984", "::1", "443",
      ["a.com", "", "b.com"], true, "Safari", "CDN", "", "", 0, 5⟩
    Fits raw ∧ Spec.processDoc demoLower raw = some
      { localAddr := "127.0.0.1:1984", timeout := 300000000000, mockDomainList := ["a.com", "b.com", "bing.com"],
        singleplex := true, numConn := 1, keepAlive := 5000000000, remoteAddr := "[::1]:443",
        transport := .cdn "ws://[::1]:443/", uid := [1], proxyMethod := "ss", encryptionMethod := 1, unordered := true,
        serverPubKey := List.replicate 32 7, mockDomain := "bing.com" } := by
  refine ⟨by simp [Fits, In64], ?_⟩
  simp [Spec.processDoc, demoLower, caseOf, Spec.methods, joinHostPort, Spec.second]

/-! ## 4. Invalid and incomplete configurations are rejected with an error -/

def isError : Except Err Cfg → Prop
  | .error _ => True
  | .ok _ => False

/-- **C20 (rejection).** Each missing mandatory field, a public key whose length is not 32 bytes, and an
encryption method that is none of the five names make `ProcessRawConfig` return an error.  The model is a
total function whose only outcomes are a configuration or an error: there is no panic outcome to reach. -/
theorem c20_reject (lower : String → String) (raw : RawConfig)
    (h : raw.serverName = "" ∨ raw.proxyMethod = "" ∨ raw.uid = [] ∨ raw.publicKey.length ≠ 32 ∨
         raw.remoteHost = "" ∨ raw.remotePort = "" ∨ raw.localHost = "" ∨ raw.localPort = "" ∨
         caseOf Spec.methods (lower raw.encryptionMethod) = none) :
    isError (processRaw lower raw) := by
  have hn : accepted (processRaw lower raw) = none := by
    rw [processRaw, accepted_processRawK]
    split
    · rfl
    · next hD =>
      simp only [not_or] at hD
      rw [show caseOf Spec.methods (lower raw.encryptionMethod) = none by simpa [hD] using h]
  revert hn
  cases processRaw lower raw <;> simp [isError, accepted]

/-- the five documented names (in any case `lower` folds) are the only accepted methods -/
theorem methods_exact (s : String) :
    caseOf Spec.methods s ≠ none ↔ s = "plain" ∨ s = "aes-256-gcm" ∨ s = "aes-gcm" ∨ s = "aes-128-gcm" ∨ s = "chacha20-poly1305" := by
  simp [caseOf_ne_none_iff, Spec.methods]

/-! ### the parse step: every JSON document ends in a configuration or an error -/

/-- `ParseConfig` either decodes into the allocated struct or tests the pointer afterwards (**fails on the tree where
`json.Unmarshal(content, &raw)` lets the document `null` produce `(nil, nil)`**) -/
theorem gen_parse : Gen.ClientCfg.parseNullOutcome = "empty-config" ∨ Gen.ClientCfg.parseNullOutcome = "error" := by decide

/-- `cmd/ck-client` uses the result of `ParseConfig` without a nil test: a nil configuration with a nil error is a crash -/
theorem gen_main_derefs : Gen.ClientCfg.mainUsesConfigWithoutNilTest = true := by decide

/-- **C20 (rejection, whole front end).** Whatever the top-level JSON value of the configuration text is, loading it
ends in a parse error, a configuration error or a processed configuration — never in the dereference of a nil
configuration.  In particular the documents `null` and `{}` and every non-object are *rejected with an error*. -/
theorem c20_load_total (lower : String → String) (d : Doc) :
    loadDoc lower d ≠ .nilDereference ∧
    (loadDoc lower .null = .configError (.empty "ServerName") ∨ loadDoc lower .null = .parseError) ∧
    loadDoc lower (.object emptyRaw) = .configError (.empty "ServerName") ∧
    loadDoc lower .other = .parseError := by
  have hn : loadDoc lower .null = .configError (.empty "ServerName") ∨ loadDoc lower .null = .parseError := by
    rcases gen_parse with h | h
    · left; simp [loadDoc, loadDocWith, parseDoc, h, processRaw, processRawK, emptyRaw]
    · right; simp [loadDoc, loadDocWith, parseDoc, h]
  refine ⟨?_, hn, ?_, ?_⟩
  · cases d with
    | null => rcases hn with h | h <;> simp [h]
    | object raw => simp only [loadDoc, loadDocWith, parseDoc]; split <;> simp
    | other => simp [loadDoc, loadDocWith, parseDoc]
  · simp [loadDoc, loadDocWith, parseDoc, processRaw, processRawK, emptyRaw]
  · simp [loadDoc, loadDocWith, parseDoc]

/-- the pinned `json.Unmarshal(content, &raw)`: the document `null` is not rejected, it kills the client
(the harness replays it: signature `C20 invalid-config-accepted null-document`) -/
theorem pinned_null_crashes (lower : String → String) : loadDocWith "nil-config" lower .null = .nilDereference := by
  simp [loadDocWith, parseDoc]

/-! ## 5. The pinned tree: `KeepAlive = 5` is ignored (explicit pinned right-hand side) -/

/-- the right-hand side the pinned tree assigns: `remote.KeepAlive * time.Second` -/
def pinnedKeepAliveOnVal (_rawKeepAlive remoteKeepAlive : Int) : Int := remoteKeepAlive * 1000000000

/-- with the destination field at its zero value a 5-second keep-alive becomes 0 (Go's default
keep-alive), not 5 s: the documented statement is false for the pinned right-hand side -/
theorem pinned_keepalive : pinnedKeepAliveOnVal 5 0 = 0 ∧ pinnedKeepAliveOnVal 5 0 ≠ 5 * Spec.second := by decide

/-- the statement of `c20_doc` is **false** for the pinned KeepAlive statement: a complete configuration with
`KeepAlive = 5` (the harness replays it: signature `C20 keepalive-positive-ignored`) -/
theorem pinned_doc_false :
    ¬ ∀ (lower : String → String) (raw : RawConfig), Fits raw →
      accepted (processRawK (keepAliveWith pinnedKeepAliveOnVal) lower raw) = Spec.processDoc lower raw := by
  intro h
  have h5 := h demoLower ⟨"bing.com", "ss", "plain", [1], List.replicate 32 7, 4, "127.0.0.1", "1984", "1.2.3.4", "443",
      [], false, "", "", "", "", 0, 5⟩ (by simp [Fits, In64])
  -- both sides accept this configuration; their `keepAlive` fields are `wrap64 (0 · 10⁹)` and `5 · 10⁹`
  rw [accepted_processRawK, keepAliveWith_pos _ _ (by decide), pinned_keepalive.1] at h5
  simp [Spec.processDoc, demoLower, caseOf, Spec.methods, wrap64_id 0 ⟨by decide, by decide⟩, Spec.second] at h5

/-! ## 6. The option-string syntax -/

/-- a logical option: key and value as they are meant (before any escaping) -/
structure Opt where
  key : Str
  value : Str

/-- what plugin hosts do to a value: every `=` becomes `\=` -/
def escEqs (v : Str) : Str := v.flatMap fun c => if c = '=' then ['\\', '='] else [c]

/-- the option string: `key=escaped value;` for every option -/
def renderSsv (opts : List Opt) : Str := opts.flatMap fun o => o.key ++ '=' :: escEqs o.value ++ [';']

/-- keys documented as numbers / booleans are written without quotes -/
def unquotedKeys : List String := ["NumConn", "StreamTimeout", "KeepAlive", "UDP"]

def jsonValue (key value : Str) : Str :=
  if isPrefix "AlternativeNames".toList key then '[' :: intercalateStr [','] ((splitOn ',' value).map quote) ++ [']']
  else if unquotedKeys.contains (String.ofList key) then value
  else quote value

def jsonMember (o : Opt) : Str := quote o.key ++ ':' :: jsonValue o.key o.value

/-- the same configuration as a JSON object text, members in the same order -/
def renderJson (opts : List Opt) : Str := '{' :: intercalateStr [','] (opts.map jsonMember) ++ ['}']

/-- the restricted alphabet: keys without `=`, `;`, `\`; values without `;`, `\` (they may contain `=`) -/
def Opt.Plain (o : Opt) : Prop :=
  '=' ∉ o.key ∧ ';' ∉ o.key ∧ '\\' ∉ o.key ∧ ';' ∉ o.value ∧ '\\' ∉ o.value

theorem gen_ssv : Gen.ClientCfg.ssvUnquoted = unquotedKeys ∧
    Gen.ClientCfg.ssvUnescape = [("\\\\", "\\"), ("\\=", "="), ("\\;", ";")] := ⟨rfl, rfl⟩

theorem unescape_eq (s : Str) :
    unescape s = rep2 '\\' ';' [';'] (rep2 '\\' '=' ['='] (rep2 '\\' '\\' ['\\'] s)) := by
  simp [unescape, gen_ssv.2, replaceAll_two]

/-- the first two passes on an escaped value free of `\`: `\\` finds nothing, `\=` undoes the escaping -/
theorem rep2_escEqs (v t : Str) (h : '\\' ∉ v) :
    rep2 '\\' '\\' ['\\'] (escEqs v ++ t) = escEqs v ++ rep2 '\\' '\\' ['\\'] t ∧
    rep2 '\\' '=' ['='] (escEqs v ++ t) = v ++ rep2 '\\' '=' ['='] t := by
  induction v with
  | nil => exact ⟨rfl, rfl⟩
  | cons c r ih =>
    simp only [List.mem_cons, not_or] at h
    have ih := ih h.2
    simp only [escEqs, List.flatMap_cons] at ih ⊢
    by_cases hc : c = '='
    · simp [hc, rep2, ih, rep2_cons_ne '\\' '\\' _ '=' _ (by decide)]
    · simp [hc, rep2_cons_ne _ _ _ _ _ (Ne.symm h.1), ih]

/-- the same for a whole rendered option list -/
theorem rep2_renderSsv (opts : List Opt) (h : ∀ o ∈ opts, o.Plain) (t : Str) :
    rep2 '\\' '\\' ['\\'] (renderSsv opts ++ t) = renderSsv opts ++ rep2 '\\' '\\' ['\\'] t ∧
    rep2 '\\' '=' ['='] (renderSsv opts ++ t) =
      (opts.flatMap fun o => o.key ++ '=' :: o.value ++ [';']) ++ rep2 '\\' '=' ['='] t := by
  induction opts with
  | nil => exact ⟨rfl, rfl⟩
  | cons o r ih =>
    obtain ⟨_, _, hk, _, hv⟩ := h o (by simp)
    have ih := ih (fun x hx => h x (List.mem_cons_of_mem _ hx))
    simp only [renderSsv, List.flatMap_cons, List.append_assoc, List.cons_append, List.nil_append] at ih ⊢
    constructor
    · rw [rep2_append_of_not_mem _ _ _ _ _ hk, rep2_cons_ne _ _ _ _ _ (by decide), (rep2_escEqs _ _ hv).1,
        rep2_cons_ne _ _ _ _ _ (by decide), ih.1]
    · rw [rep2_append_of_not_mem _ _ _ _ _ hk, rep2_cons_ne _ _ _ _ _ (by decide), (rep2_escEqs _ _ hv).2,
        rep2_cons_ne _ _ _ _ _ (by decide), ih.2]

/-- after the three passes the escaped rendering is the plain one -/
theorem unescape_render (opts : List Opt) (h : ∀ o ∈ opts, o.Plain) :
    unescape (renderSsv opts) = opts.flatMap fun o => o.key ++ '=' :: o.value ++ [';'] := by
  have hp := rep2_renderSsv opts h []
  simp only [List.append_nil, rep2] at hp
  have p3 : '\\' ∉ opts.flatMap fun o => o.key ++ '=' :: o.value ++ [';'] := by
    simp only [List.mem_flatMap, List.mem_append, List.mem_cons, not_exists, not_and, not_or]
    intro o ho
    exact ⟨⟨(h o ho).2.2.1, by decide, (h o ho).2.2.2.2⟩, by decide⟩
  rw [unescape_eq, hp.1, hp.2, rep2_no_first _ _ _ _ p3]

/-- splitting the plain rendering at `;` and each item at its first `=` gives the options back -/
theorem members_split (opts : List Opt) (h : ∀ o ∈ opts, o.Plain) :
    members (splitOn ';' (opts.flatMap fun o => o.key ++ '=' :: o.value ++ [';'])) =
      opts.flatMap fun o => member o.key o.value := by
  induction opts with
  | nil => simp [splitOn, members]
  | cons o r ih =>
    obtain ⟨hk, hk', _, hv, _⟩ := h o (by simp)
    have hs : ';' ∉ o.key ++ '=' :: o.value := by
      simp only [List.mem_append, List.mem_cons, not_or]; exact ⟨hk', by decide, hv⟩
    have e : ∀ x, o.key ++ '=' :: (o.value ++ ';' :: x) = (o.key ++ '=' :: o.value) ++ ';' :: x := by simp
    simp only [List.flatMap_cons, List.append_assoc, List.cons_append, List.nil_append]
    rw [e, splitOn_append_sep _ _ _ hs, members, if_neg (by simp), splitFirst_append_sep _ _ _ hk]
    simp only [List.append_assoc, List.cons_append, List.nil_append] at ih
    rw [ih (fun x hx => h x (List.mem_cons_of_mem _ hx))]

theorem splitOn_no_sep (sep : Char) (s : Str) (h : sep ∉ s) : splitOn sep s = [s] := by
  induction s with
  | nil => simp [splitOn]
  | cons c r ih =>
    simp only [List.mem_cons, not_or] at h
    simp [splitOn, Ne.symm h.1, ih h.2]

theorem member_eq (o : Opt) : member o.key o.value = jsonMember o ++ [','] := by
  unfold member jsonMember jsonValue
  rw [gen_ssv.1]
  by_cases h1 : isPrefix "AlternativeNames".toList o.key = true
  · simp only [h1, if_true]
    by_cases h2 : ',' ∈ o.value
    · have : o.value.contains ',' = true := by simpa using h2
      simp only [this, if_true]
      simp [List.append_assoc]
    · have : o.value.contains ',' = false := by simpa using h2
      simp only [this, splitOn_no_sep _ _ h2, List.map_cons, List.map_nil, intercalateStr]
      simp [List.append_assoc]
  · simp only [h1, if_false, Bool.false_eq_true]
    by_cases h3 : unquotedKeys.contains (String.ofList o.key) = true
    · simp only [h3, if_true]; simp [List.append_assoc]
    · simp only [h3, if_false]; simp [List.append_assoc]

theorem dropLast_members (l : List Str) (h : l ≠ []) :
    (l.flatMap fun m => m ++ [',']).dropLast = intercalateStr [','] l := by
  induction l with
  | nil => exact absurd rfl h
  | cons x r ih =>
    cases r with
    | nil => simp [intercalateStr]
    | cons y r' =>
      have hr := ih (by simp)
      simp only [List.flatMap_cons] at hr ⊢
      rw [intercalateStr]
      have hne : (y ++ [',']) ++ (r'.flatMap fun m => m ++ [',']) ≠ [] := by simp
      rw [List.dropLast_append_of_ne_nil hne, hr]
      try simp [List.append_assoc]

/-- **C20 (syntax equivalence, restricted alphabet).** For a non-empty list of options whose keys contain no
`=`, `;`, `\\` and whose values contain no `;`, `\\` (values may contain `=`, which plugin hosts escape as `\\=`,
as in base64 UIDs and keys), converting the option string yields exactly the JSON object text with the same
members in the same order: numbers/booleans unquoted, `AlternativeNames` as an array split at commas,
everything else a string.  Outside this alphabet: an escaped semicolon `\;` inside a value does NOT work
(`c20_ssv_witness` below: the full statement `c20_ssv_full` is false — open finding); `"` and raw `\\` in values
make the correspondence depend on `encoding/json` string escaping and are exercised by T2 only. -/
theorem c20_ssv_partial (opts : List Opt) (hne : opts ≠ []) (h : ∀ o ∈ opts, o.Plain) :
    ssvToJson (renderSsv opts) = renderJson opts := by
  unfold ssvToJson renderJson
  simp only [unescape_render opts h, members_split opts h]
  have hm : (opts.flatMap fun o => member o.key o.value) = (opts.map jsonMember).flatMap fun m => m ++ [','] := by
    simp only [List.flatMap_map]; congr 1; funext o; exact member_eq o
  rw [hm]
  have hne' : opts.map jsonMember ≠ [] := by simpa using hne
  have hne2 : ((opts.map jsonMember).flatMap fun m => m ++ [',']) ≠ [] := by
    cases opts with
    | nil => exact absurd rfl hne
    | cons o r => simp
  rw [show ('{' :: ((opts.map jsonMember).flatMap fun m => m ++ [','])) = ['{'] ++ ((opts.map jsonMember).flatMap fun m => m ++ [',']) by rfl,
    List.dropLast_append_of_ne_nil hne2, dropLast_members _ hne']
  simp

/-- non-vacuity: the UID/NumConn/AlternativeNames example satisfies the hypotheses and both sides are the expected text -/
example :
    let opts : List Opt := [⟨"UID".toList, "aGk=".toList⟩, ⟨"NumConn".toList, "4".toList⟩, ⟨"AlternativeNames".toList, "a,,b".toList⟩]
    (∀ o ∈ opts, o.Plain) ∧ String.ofList (renderSsv opts) = "UID=aGk\\=;NumConn=4;AlternativeNames=a,,b;" ∧
    String.ofList (renderJson opts) = "{\"UID\":\"aGk=\",\"NumConn\":4,\"AlternativeNames\":[\"a\",\"\",\"b\"]}" := by
  refine ⟨?_, by decide, by decide⟩
  intro o ho
  simp only [List.mem_cons, List.mem_nil_iff, or_false] at ho
  rcases ho with rfl | rfl | rfl <;> (unfold Opt.Plain; decide)

/-! ### the full escaping alphabet: `\;` is in `unescape`'s table, but the string is split *after* unescaping -/

/-- the escaping of the plugin-option syntax (SIP003, the format Shadowsocks plugin hosts hand over):
`\` → `\\`, `=` → `\=`, `;` → `\;` — the three pairs of `Gen.ClientCfg.ssvUnescape`, read backwards -/
def escAll (v : Str) : Str := v.flatMap fun c =>
  if c = '\\' then ['\\', '\\'] else if c = '=' then ['\\', '='] else if c = ';' then ['\\', ';'] else [c]

def renderSsvEsc (opts : List Opt) : Str := opts.flatMap fun o => o.key ++ '=' :: escAll o.value ++ [';']

/-- keys as before; values free of `"` and `\` (JSON string escaping is not the subject) but they MAY contain `;` and `=` -/
def Opt.Semi (o : Opt) : Prop :=
  '=' ∉ o.key ∧ ';' ∉ o.key ∧ '\\' ∉ o.key ∧ '"' ∉ o.value ∧ '\\' ∉ o.value

/-- **C20 (syntax equivalence), full statement**: also for values that contain a semicolon -/
def c20_ssv_full : Prop :=
  ∀ opts : List Opt, opts ≠ [] → (∀ o ∈ opts, o.Semi) → ssvToJson (renderSsvEsc opts) = renderJson opts

theorem escAll_plain (v : Str) (h1 : ';' ∉ v) (h2 : '\\' ∉ v) : escAll v = escEqs v := by
  induction v with
  | nil => rfl
  | cons c r ih =>
    simp only [List.mem_cons, not_or] at h1 h2
    have e1 : ¬ c = '\\' := fun e => h2.1 e.symm
    have e2 : ¬ c = ';' := fun e => h1.1 e.symm
    simp only [escAll, escEqs, List.flatMap_cons] at ih ⊢
    rw [ih h1.2 h2.2]
    simp [e1, e2]

theorem renderSsvEsc_plain (opts : List Opt) (h : ∀ o ∈ opts, o.Plain) : renderSsvEsc opts = renderSsv opts := by
  induction opts with
  | nil => rfl
  | cons o r ih =>
    obtain ⟨_, _, _, hv1, hv2⟩ := h o (by simp)
    simp only [renderSsvEsc, renderSsv, List.flatMap_cons] at ih ⊢
    rw [ih (fun x hx => h x (List.mem_cons_of_mem _ hx)), escAll_plain _ hv1 hv2]

/-- what is proved of it: the part without `;` in values (this is `c20_ssv_partial` for the full escaping) -/
theorem c20_ssv_full_partial (opts : List Opt) (hne : opts ≠ []) (h : ∀ o ∈ opts, o.Plain) :
    ssvToJson (renderSsvEsc opts) = renderJson opts := by
  rw [renderSsvEsc_plain opts h]; exact c20_ssv_partial opts hne h

def semiOpt : Opt := ⟨"CDNWsUrlPath".toList, "/ws;v=1".toList⟩

/-- the option string `CDNWsUrlPath=/ws\;v\=1;` becomes `{"CDNWsUrlPath":"/ws","v":"1"}`: the escaped semicolon still
splits, the path is cut and a bogus option `v` appears; the JSON syntax keeps `"/ws;v=1"` -/
theorem ssv_semicolon_splits :
    String.ofList (renderSsvEsc [semiOpt]) = "CDNWsUrlPath=/ws\\;v\\=1;" ∧
    String.ofList (ssvToJson (renderSsvEsc [semiOpt])) = "{\"CDNWsUrlPath\":\"/ws\",\"v\":\"1\"}" ∧
    String.ofList (renderJson [semiOpt]) = "{\"CDNWsUrlPath\":\"/ws;v=1\"}" := by
  decide

/-- **the full equivalence statement is false of `ssvToJson`** (genuine defect, open finding; the harness replays this
configuration: signature `C20 syntaxes-differ escaped-semicolon-in-value`) -/
theorem c20_ssv_witness : ¬ c20_ssv_full := by
  intro h
  have h1 := h [semiOpt] (by simp) (by
    intro o ho
    simp only [List.mem_cons, List.mem_nil_iff, or_false] at ho
    subst ho; unfold Opt.Semi semiOpt; decide)
  have h2 := congrArg String.ofList h1
  rw [ssv_semicolon_splits.2.1, ssv_semicolon_splits.2.2] at h2
  revert h2; decide

/-- mirrored by the model, compared in the T rows, *not* asserted by any monitor (the text gives them no meaning):
an empty item ends the loop, so every later option is dropped; only the exact spellings of the four numeric/boolean
keys are left unquoted -/
theorem ssv_mirrored_oddities :
    String.ofList (ssvToJson "ProxyMethod=ss;;NumConn=4;".toList) = "{\"ProxyMethod\":\"ss\"}" ∧
    String.ofList (ssvToJson "numconn=4;".toList) = "{\"numconn\":\"4\"}" := by
  decide

/-! ## 7. The first connection made with an accepted configuration -/

theorem gen_connect : Gen.ClientCfg.authPayloadPanicsOnDHError = true ∧
    Gen.ClientCfg.directRandomisesServerName = true ∧ Gen.ClientCfg.cdnRandomisesServerName = false := ⟨rfl, rfl, rfl⟩

/-- **C20 ("rejected with an error rather than a crash"), full statement**: no accepted configuration makes the client
panic when it connects -/
def c20_no_crash_full : Prop :=
  ∀ (lower : String → String) (raw : RawConfig) (dhFails : Bytes → Bool) (c : Cfg),
    processRaw lower raw = .ok c → firstConnect dhFails c = .proceeds

/-- what holds: a configuration whose `PublicKey` X25519 accepts never reaches the `log.Panicf` -/
theorem c20_no_crash_partial (lower : String → String) (raw : RawConfig) (dhFails : Bytes → Bool) (c : Cfg)
    (h : processRaw lower raw = .ok c) (hk : dhFails raw.publicKey = false) : firstConnect dhFails c = .proceeds := by
  obtain ⟨_, rfl⟩ := processRawK_ok h
  simp [firstConnect, hk]

def rawZeroKey : RawConfig := ⟨"bing.com", "ss", "plain", [1], List.replicate 32 0, 4, "127.0.0.1", "1984", "1.2.3.4", "443",
  [], false, "", "", "", "", 0, 0⟩

/-- `PublicKey` = 32 zero bytes (a small-order point: `curve25519.X25519` answers "bad input point: low order point",
exercised on the real code by the harness) is accepted by `ProcessRawConfig` — only the length is tested — and the
first connection panics.  Signature `C20 invalid-config-crashes low-order-public-key`. -/
theorem c20_no_crash_witness : ¬ c20_no_crash_full := by
  intro h
  have hp : ∃ c, processRaw demoLower rawZeroKey = .ok c := by
    simp [← accepted_eq_some, processRaw, accepted_processRawK, rawZeroKey, demoLower, caseOf, Spec.methods]
  obtain ⟨c, hc⟩ := hp
  have h1 := h demoLower rawZeroKey (fun pk => pk == List.replicate 32 0) c hc
  obtain ⟨_, rfl⟩ := processRawK_ok hc
  simp [firstConnect, gen_connect.1, rawZeroKey] at h1

/-! ## 8. `ServerName = random` -/

/-- **README: "Use `random` to randomize the server name for every connection made", full statement** -/
def c20_random_full : Prop :=
  ∀ (lower : String → String) (raw : RawConfig) (c : Cfg) (fresh : String),
    processRaw lower raw = .ok c → lower raw.serverName = "random" → sniOf lower c fresh = fresh

/-- what holds: the direct transport sends the freshly drawn name -/
theorem c20_random_partial (lower : String → String) (raw : RawConfig) (c : Cfg) (fresh : String)
    (h : processRaw lower raw = .ok c) (hr : lower raw.serverName = "random") (hd : ∀ u, c.transport ≠ .cdn u) :
    sniOf lower c fresh = fresh := by
  unfold sniOf
  cases ht : c.transport with
  | cdn u => exact absurd ht (hd u)
  | direct b => obtain ⟨_, rfl⟩ := processRawK_ok h; simp [gen_connect.2.1, hr]

def rawRandomCdn : RawConfig := ⟨"random", "ss", "plain", [1], List.replicate 32 7, 4, "127.0.0.1", "1984", "1.2.3.4", "443",
  [], false, "", "CDN", "", "", 0, 0⟩

/-- with `Transport = CDN` the literal name `random` is the SNI of every connection (`WSOverTLS.Handshake` hands
`authInfo.MockDomain` to utls unchanged).  Signature `C20 servername-random-not-randomised cdn`. -/
theorem c20_random_witness : ¬ c20_random_full := by
  intro h
  obtain ⟨_, tc, td, _⟩ := gen_tables
  have hp : ∃ c, processRaw demoLower rawRandomCdn = .ok c := by
    simp [← accepted_eq_some, processRaw, accepted_processRawK, rawRandomCdn, demoLower, caseOf, Spec.methods]
  obtain ⟨c, hc⟩ := hp
  have h1 := h demoLower rawRandomCdn c "fresh.example" hc (by simp [rawRandomCdn, demoLower])
  obtain ⟨_, rfl⟩ := processRawK_ok hc
  simp [sniOf, transportOf, tc, td, gen_connect.2.2, rawRandomCdn, demoLower, caseOf] at h1

end C20

#print axioms C20.c20_doc
#print axioms C20.c20_reject
#print axioms C20.pinned_doc_false
#print axioms C20.c20_ssv_partial
#print axioms C20.gen_structure
#print axioms C20.c20_load_total
#print axioms C20.c20_ssv_witness
#print axioms C20.c20_no_crash_witness
#print axioms C20.c20_random_witness
