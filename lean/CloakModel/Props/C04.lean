import CloakModel.Model.Codec
import CloakModel.Lemmas.CodecCore

/-! # C04 — Frame encoding round-trips, respects the size limit and keeps the wire format

The model (`Model/Codec.lean`) is the function the Go source describes: every bound, guard and slice limit
is a term extracted from `internal/multiplex/obfs.go` / `session.go` (`Gen.Codec.*`).  `Lemmas/CodecCore.lean`
turns that model into the layout with literal offsets (`obf_nf`, `deobf_nf` — the bridging lemmas that stop
checking when an extracted expression changes meaning) and proves that an honest message decodes to its
frame.  Here: the structural facts, the padding bound, the round trip, the size bound, and agreement with the
Cloak v2 layout stated independently (`Spec`).  The ciphers are an interface with laws (`Codec.Lawful`);
"encoding in place vs from a separate buffer" is the same function in the model and is checked on the real
code by the correspondence harness only. -/

namespace C04
open Codec Gen.Codec

/-! ## 1. Structural facts of the source the model relies on -/

/-- call-site and statement-order facts of `obfuscate`, `deobfuscate`, `MakeObfuscator`, `MakeSession`:
the stores go to header[0:4], [4:12], [12], [13]; the whole random region is filled; `Seal`/`Open` work in
place with `nil` additional data; the Salsa20 mask is applied to the header with the session key after
`Seal` (before the field reads in `deobfuscate`); the ciphers are AES-GCM over the full key (method 1),
ChaCha20-Poly1305 (2), AES-GCM over the first 16 key bytes (3), none (0); unknown methods are refused; both
endpoints configure the same limit constant and every `sb.send` carries `buf[:n]` with `n` from `obfuscate`. -/
theorem gen_structure :
    payloadLenIsLen = true ∧ tagLenIsOverhead = true ∧ padDefaultZero = true ∧
    hdrSidHi - hdrSidLo = 4 ∧ hdrSeqHi - hdrSeqLo = 8 ∧
    sealInPlace = true ∧ sealAADNil = true ∧ obfSalsaOnHeader = true ∧ obfOrder = true ∧ obfReturnsUseful = true ∧
    deobfSalsaOnHeader = true ∧ deobfOrder = true ∧ openInPlace = true ∧ openAADNil = true ∧ openErrReturns = true ∧
    deobfFills = 4 ∧
    cipherPlain = "none/" ∧ cipherAES256 = "aes.NewCipher/full" ∧ cipherAES128 = "aes.NewCipher/16" ∧
    cipherChacha = "chacha20poly1305.New/full" ∧ unknownMethodIsError = true ∧ obfKeyIsSessionKey = true ∧
    encPlain = 0 ∧ encAES256GCM = 1 ∧ encChacha20Poly1305 = 2 ∧ encAES128GCM = 3 ∧
    limitDefault = defaultMaxOnWireSize ∧ clientLimitIsAppDataMax = true ∧ serverLimitIsAppDataMax = true ∧
    appDataMaxLengthClient = appDataMaxLengthServer ∧
    sendsOfObfuscateOutput = sendCallSites := by
  and_intros <;> rfl

/-- `rand.Read` fills exactly `buf[frameHeaderLength+payloadLen : usefulLen]`; the payload is copied exactly when
the caller says it is not already in place; a session's send buffer has the size of the limit -/
theorem gen_exprs (p u off limit : Int) :
    randLo p = frameHeaderLength + p ∧ randHi u = u ∧ (copyGuard off = true ↔ off ≠ frameHeaderLength) ∧
    streamSendBufferSize limit = limit := by
  unfold randLo randHi copyGuard streamSendBufferSize frameHeaderLength
  refine ⟨by omega, by omega, ?_, by omega⟩
  simp only [decide_eq_true_eq]

/-! ## 2. The padding bound: padding plus tag always fits the one-byte `extraLen` field -/

/-- for EVERY draw `common.RandInt(padBound tagLen)` can return, `byte(padLen + tagLen)` does not wrap.
(With the bound `maxExtraLen + 1` this fails: draw 240 with a 16-byte tag gives 256.) -/
theorem c04_extra_fits (tagLen padLen : Int) (h0 : 0 ≤ padLen) (ht : 0 ≤ tagLen) (h : padLen < padBound tagLen) :
    0 ≤ extraByte padLen tagLen ∧ extraByte padLen tagLen ≤ maxExtraLen ∧ maxExtraLen < 256 := by
  unfold padBound at h
  unfold extraByte maxExtraLen
  omega

/-- `common.RandInt` is never called with a non-positive bound (it would panic) for a tag that fits -/
theorem c04_bound_pos (tagLen : Int) (ht : tagLen ≤ maxExtraLen) : 0 < padBound tagLen := by
  unfold padBound; unfold maxExtraLen at ht; omega

/-- the unpadded case fits as well -/
theorem pad_tag_fits (C : Crypto) (hL : Lawful C) (f : Frame) (padDraw : Nat)
    (hdraw : (padDraw : Int) < padBound (tagLenOf C)) : padLenOf f padDraw + tagNF C ≤ 255 := by
  have ht := (tagNF_bounds C hL).2
  unfold padLenOf
  split
  · have := c04_extra_fits (tagLenOf C) padDraw (by omega) (by omega) hdraw
    rw [tagLenOf_nf, gen_extraByte, gen_obf_consts.2.2.2.2] at this
    omega
  · omega

/-! ## 3. Round trip -/

/-- what `obfuscate` needs of its destination buffer -/
def fitsBuf (C : Crypto) (f : Frame) (bufLen padDraw : Nat) : Prop :=
  bufTooSmall bufLen (usefulLen f.payload.length (padLenOf f padDraw) (tagLenOf C)) = false

/-- `obfuscate` under the hypotheses of the theorems below: it answers with the honest message -/
theorem obf_ok (C : Crypto) (hL : Lawful C) (key : Bytes) (f : Frame) (bufLen padDraw : Nat) (rnd : Bytes)
    (hpl : 1 ≤ f.payload.length) (hrnd : rnd.length = padLenOf f padDraw + tagLenOf C) (hbuf : fitsBuf C f bufLen padDraw) :
    obfuscate C key f bufLen padDraw rnd =
      .ok (honestMsg C key f (rnd.take (padLenOf f padDraw)) (rnd.drop (padLenOf f padDraw))) := by
  unfold fitsBuf at hbuf
  rw [gen_useful, gen_bufTooSmall, tagLenOf_nf, decide_eq_false_iff_not] at hbuf
  rw [tagLenOf_nf] at hrnd
  rw [obf_nf C hL key f bufLen padDraw rnd hrnd, if_neg (by omega), if_neg hbuf]

/-- **C04 (round trip).** For every lawful cipher (all four methods: `C.aead = none` is the plain method),
key, frame with a 32-bit stream id, 64-bit sequence number, any closing byte and a non-empty payload, every
padding draw `common.RandInt` can return, every output of `rand.Read`, and every destination buffer that is
large enough: `obfuscate` succeeds and `deobfuscate` of its output under the same key is the identical frame. -/
theorem c04_roundtrip (C : Crypto) (hL : Lawful C) (key : Bytes) (f : Frame) (bufLen padDraw : Nat) (rnd : Bytes)
    (hsid : f.sid < 2^32) (hseq : f.seq < 2^64) (hpl : 1 ≤ f.payload.length)
    (hdraw : (padDraw : Int) < padBound (tagLenOf C))
    (hrnd : rnd.length = padLenOf f padDraw + tagLenOf C)
    (hbuf : fitsBuf C f bufLen padDraw) :
    ∃ msg, obfuscate C key f bufLen padDraw rnd = .ok msg ∧ deobfuscate C key msg = .ok f := by
  refine ⟨_, obf_ok C hL key f bufLen padDraw rnd hpl hrnd hbuf, ?_⟩
  rw [tagLenOf_nf] at hrnd
  obtain ⟨hpt, htl⟩ := rnd_parts C rnd _ hrnd
  exact decode_honest C hL key f _ _ hsid hseq (by rw [hpt]; exact pad_tag_fits C hL f padDraw hdraw) htl

/-! ## 4. Size -/

/-- **C04 (size).** Whatever `obfuscate` returns has length `14 + |payload| + pad + tag`; so for a payload of at
most `maxStreamUnitWrite limit` bytes the message never exceeds `limit` (the session's `MsgOnWireSizeLimit`),
and it is never shorter than 23 bytes. -/
theorem c04_size (C : Crypto) (hL : Lawful C) (key : Bytes) (f : Frame) (bufLen padDraw : Nat) (rnd : Bytes) (msg : Bytes)
    (limit : Int)
    (hdraw : (padDraw : Int) < padBound (tagLenOf C))
    (hrnd : rnd.length = padLenOf f padDraw + tagLenOf C)
    (hp : (f.payload.length : Int) ≤ maxStreamUnitWrite limit)
    (hok : obfuscate C key f bufLen padDraw rnd = .ok msg) :
    (msg.length : Int) = usefulLen f.payload.length (padLenOf f padDraw) (tagLenOf C) ∧
    (msg.length : Int) ≤ limit ∧ 23 ≤ msg.length := by
  rw [tagLenOf_nf] at hrnd
  obtain ⟨hpt, htl⟩ := rnd_parts C rnd _ hrnd
  have hfit := pad_tag_fits C hL f padDraw hdraw
  have h8 := (tagNF_bounds C hL).1
  rw [obf_nf C hL key f bufLen padDraw rnd hrnd] at hok
  split at hok
  · cases hok
  split at hok
  · cases hok
  cases hok
  rw [honestMsg_length C hL key f _ _ htl, hpt, tagLenOf_nf, gen_useful]
  unfold maxStreamUnitWrite at hp
  exact ⟨rfl, by omega, by omega⟩

/-- a payload of at most `maxStreamUnitWrite limit` bytes always fits a session's send buffer
(`streamSendBufferSize limit` bytes), whatever the padding draw: `obfuscate` never answers "buffer too small" -/
theorem c04_fits (C : Crypto) (hL : Lawful C) (f : Frame) (padDraw : Nat) (limit : Int) (bufLen : Nat)
    (hdraw : (padDraw : Int) < padBound (tagLenOf C))
    (hbuf : (bufLen : Int) = streamSendBufferSize limit)
    (hp : (f.payload.length : Int) ≤ maxStreamUnitWrite limit) :
    fitsBuf C f bufLen padDraw := by
  have hfit := pad_tag_fits C hL f padDraw hdraw
  unfold fitsBuf
  rw [tagLenOf_nf, gen_useful, gen_bufTooSmall]
  unfold streamSendBufferSize at hbuf
  unfold maxStreamUnitWrite at hp
  simp only [decide_eq_false_iff_not]
  omega

/-- the two endpoints' limit (16401) is what `maxStreamUnitWrite` is derived from, and it does not exceed the
default / the largest TLS record (16640) -/
theorem gen_limits : appDataMaxLengthClient ≤ defaultMaxOnWireSize ∧ 0 < maxStreamUnitWrite appDataMaxLengthClient := by decide

/-! ## 5. The Cloak v2 layout, stated independently -/

namespace Spec

/-- StreamID(4) | Seq(8) | Closing(1) | extraLen(1), big-endian -/
def header (f : Frame) (extra : Nat) : Bytes :=
  beBytes 4 f.sid ++ beBytes 8 f.seq ++ [f.closing, UInt8.ofNat extra]

/-- v2 message: body = AEAD(key, nonce = header[0:12], payload ++ padding), or payload ++ padding ++ 8 random
bytes for the plain method; header masked with Salsa20(key, nonce = last 8 bytes of the message); extraLen =
padding + tag (8 for the plain method) -/
def encodeV2 (C : Crypto) (key : Bytes) (f : Frame) (pad tail : Bytes) : Bytes :=
  match C.aead with
  | some a =>
    let hdr := header f (pad.length + a.overhead)
    let body := a.aseal key (hdr.take 12) (f.payload ++ pad) []
    xor hdr (C.stream key (body.drop (body.length - 8)) 14) ++ body
  | none =>
    let hdr := header f (pad.length + 8)
    let body := f.payload ++ pad ++ tail
    xor hdr (C.stream key (body.drop (body.length - 8)) 14) ++ body

end Spec

theorem spec_encode_eq (C : Crypto) (key : Bytes) (f : Frame) (pad tail : Bytes)
    (h12 : ∀ a : Aead, C.aead = some a → a.nonceSize = 12) :
    Spec.encodeV2 C key f pad tail = honestMsg C key f pad tail := by
  unfold Spec.encodeV2 honestMsg honestBody tagNF
  cases hc : C.aead with
  | none => rfl
  | some a =>
    dsimp only
    rw [h12 a hc]
    rfl

/-- **C04 (layout).** With 12-byte AEAD nonces (all three supported AEADs), the bytes `obfuscate` produces ARE the
v2 message for the padding `rnd[:pad]` and tail `rnd[pad:]` — encoder and independently stated layout agree,
not merely encoder and decoder — and `deobfuscate` decodes EVERY v2 message (any padding length that fits the
length byte, also for sequence numbers the encoder would not pad) to its frame. -/
theorem c04_layout (C : Crypto) (hL : Lawful C) (h12 : ∀ a : Aead, C.aead = some a → a.nonceSize = 12) (key : Bytes) (f : Frame)
    (hsid : f.sid < 2^32) (hseq : f.seq < 2^64) :
    (∀ (bufLen padDraw : Nat) (rnd : Bytes), 1 ≤ f.payload.length →
        rnd.length = padLenOf f padDraw + tagLenOf C → fitsBuf C f bufLen padDraw →
        obfuscate C key f bufLen padDraw rnd =
          .ok (Spec.encodeV2 C key f (rnd.take (padLenOf f padDraw)) (rnd.drop (padLenOf f padDraw)))) ∧
    (∀ (pad tail : Bytes), pad.length + tagLenOf C ≤ 255 → (C.aead = none → tail.length = 8) →
        deobfuscate C key (Spec.encodeV2 C key f pad tail) = .ok f) := by
  constructor
  · intro bufLen padDraw rnd hpl hrnd hbuf
    rw [spec_encode_eq C key f _ _ h12]
    exact obf_ok C hL key f bufLen padDraw rnd hpl hrnd hbuf
  · intro pad tail he htail
    rw [tagLenOf_nf] at he
    rw [spec_encode_eq C key f _ _ h12]
    exact decode_honest C hL key f pad tail hsid hseq he htail

/-! ## 6. Non-vacuity: a toy lawful cipher, and the theorems' hypotheses on a concrete frame -/

/-- toy AEAD: ciphertext = plaintext ++ 16 tag bytes derived from nothing; opens by stripping 16 bytes.
Lawful (round trip, lengths, 12-byte nonce) — enough to show the hypotheses are satisfiable. -/
def toyAead : Aead :=
  ⟨16, 12, fun _ _ p _ => p ++ List.replicate 16 7, fun _ _ c _ => if 16 ≤ c.length then some (c.take (c.length - 16)) else none⟩

def toy : Crypto := ⟨some toyAead, fun _ _ l => List.replicate l 0x5a⟩
def toyPlain : Crypto := ⟨none, fun _ _ l => List.replicate l 0x5a⟩

theorem toy_lawful : Lawful toy where
  stream_len := by intro k n l; simp [toy]
  unseal_seal := by intro a ha k n p; obtain rfl : toyAead = a := Option.some.inj ha; simp [toyAead]
  seal_len := by intro a ha k n p; obtain rfl : toyAead = a := Option.some.inj ha; simp [toyAead]
  tag_ge := by intro a ha; obtain rfl : toyAead = a := Option.some.inj ha; decide
  tag_le := by intro a ha; obtain rfl : toyAead = a := Option.some.inj ha; decide
  nonce_ok := by intro a ha; obtain rfl : toyAead = a := Option.some.inj ha; decide

theorem toyPlain_lawful : Lawful toyPlain where
  stream_len := by intro k n l; simp [toyPlain]
  unseal_seal := by intro a ha; simp [toyPlain] at ha
  seal_len := by intro a ha; simp [toyPlain] at ha
  tag_ge := by intro a ha; simp [toyPlain] at ha
  tag_le := by intro a ha; simp [toyPlain] at ha
  nonce_ok := by intro a ha; simp [toyPlain] at ha

/-- a padded frame (seq 3 < 5, draw 239 = the largest admissible one for a 16-byte tag) really round-trips
through the executable model, and the hypotheses of `c04_roundtrip` hold for it -/
def exFrame : Frame := ⟨0xffffffff, 3, 1, [1, 2, 3]⟩
def exRnd : Bytes := List.replicate (239 + 16) 9

set_option maxRecDepth 8000 in
example :
    ((239 : Nat) : Int) < padBound (tagLenOf toy) ∧ exRnd.length = padLenOf exFrame 239 + tagLenOf toy ∧
    fitsBuf toy exFrame 16401 239 ∧ exFrame.sid < 2^32 ∧ exFrame.seq < 2^64 ∧ 1 ≤ exFrame.payload.length ∧
    (match obfuscate toy [] exFrame 16401 239 exRnd with
     | .ok msg => decide (msg.length = 14 + 3 + 255) && decide (deobfuscate toy [] msg = .ok exFrame)
     | _ => false) = true := by
  refine ⟨by decide, by decide, ?_, by decide, by decide, by decide, by decide⟩
  unfold fitsBuf; decide

example :
    let f : Frame := ⟨7, 9, 0, [0xaa]⟩
    (match obfuscate toyPlain [] f 16401 0 (List.replicate 8 1) with
     | .ok msg => decide (msg.length = 23) && decide (deobfuscate toyPlain [] msg = .ok f)
     | _ => false) = true := by
  decide

end C04

#print axioms C04.c04_roundtrip
#print axioms C04.c04_size
#print axioms C04.c04_layout
#print axioms C04.c04_extra_fits
#print axioms C04.gen_structure
