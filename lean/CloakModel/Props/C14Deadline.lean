import CloakModel.Model.PipeDeadline
import CloakModel.Props.C14

/-! # C14 with read deadlines

`client.RouteUDP` sets a read deadline on every stream and refreshes it on every datagram; `Props/C14.lean` is about the
pipe without deadlines (`DG.read`).  Here: the pipe on a virtual clock (`Model/PipeDeadline.lean`).

* `gen_deadline` — the regenerated facts the model is built from: order of the tests in `Read`'s wait loop, the
  timed-out comparison, `SetReadDeadline` wakes, `broadcastAfter` arms for the time left.
* `eval_cases` — the three ways a pass through the loop ends; `wake_cases`, `read_cases` — what that makes of a wake-up and of
  a `Read`.  Everything below rests on these three.
* `no_deadline_is_plain` — without a deadline a pass through the loop IS `DG.read` (so every theorem of `Props/C14.lean`
  speaks about the timed pipe too).
* `timeout_keeps`, `park_keeps` — a read that times out or parks changes nothing in the pipe.
* `run_run`, `timed_is_untimed`, `c14_deadline_fifo` — after ANY sequence of writes (data/closing), reads of any buffer size,
  closes, deadline changes and passages of time, parked and woken readers included: the pipe and ghost lists of the timed run
  are those of an untimed run of `Props/C14.lean`; so (`C14.c14_fifo_whole`) what the reads returned followed by what the pipe
  queues is what it accepted — no datagram lost, cut, merged, duplicated or reordered by a deadline.
* `c14_timeout_sound` — a read answers `ErrTimeout` only with a deadline set that has been reached; never with EOF due.
* `c14_returns_by_deadline` — invariant `Inv`: a parked reader under deadline `d` has the timer armed for exactly `d`
  and `now < d`; hence once time has passed `d` no reader is parked (nothing stays blocked past its deadline). -/
set_option linter.unusedVariables false

namespace C14D
open DG PDL

theorem gen_deadline :
    Gen.Deadline.dgDeadlineOrder = true ∧ Gen.Deadline.dgSetDeadlineWakes = true ∧ Gen.Deadline.dgTimerArms = true ∧
    Gen.Deadline.spDeadlineOrder = true ∧ Gen.Deadline.spSetDeadlineWakes = true ∧ Gen.Deadline.spTimerArms = true := by
  and_intros <;> rfl

/-- `datagramBufferedPipe.Write` stores every data frame it does not refuse for a closed pipe: no other way out (T1) -/
theorem gen_write_stores : Gen.Datagram.dgWriteStoresWhatItDoesNotRefuse = true := rfl

/-- the extracted comparison: timed out ⇔ the deadline is not in the future -/
theorem gen_timed_out (d now : Nat) : Gen.Deadline.dgTimedOut ((d : Int) - (now : Int)) = true ↔ d ≤ now := by
  unfold Gen.Deadline.dgTimedOut
  gen_bool

theorem gen_timed_out_sp (d now : Nat) : Gen.Deadline.spTimedOut ((d : Int) - (now : Int)) = true ↔ d ≤ now := by
  unfold Gen.Deadline.spTimedOut
  gen_bool

/-- the ghost-extended state seen as a run of the untimed pipe -/
def toRun (s : St) : C14.Run := ⟨s.p, s.outs, s.acc⟩

/-! ## one pass through the loop -/

theorem take_run (s : St) (cap : Nat) : toRun (take s cap).1 = C14.step (toRun s) (.r cap) := rfl

/-- a pass ends in one of three ways: with `DG.read`'s answer (which is not `block`: EOF is due, or there is a datagram and no
deadline has passed), with `ErrTimeout`, or parked, the timer armed for the deadline if there is one -/
theorem eval_cases (s : St) (cap : Nat) :
    (eval s cap = take s cap ∧ (DG.read s.p cap).2 ≠ .block) ∨
    (eval s cap = (s, .timeout) ∧ ∃ d, s.deadline = some d ∧ d ≤ s.now ∧ ¬ (s.p.closed = true ∧ s.p.lens.length = 0)) ∨
    (eval s cap = ({ s with timer := s.deadline <|> s.timer }, .park) ∧
      (DG.read s.p cap).2 = .block ∧ ∀ d, s.deadline = some d → s.now < d) := by
  obtain ⟨p, now, deadline, timer, pending, outs, acc⟩ := s
  simp only [eval, C14.gen_eof, C14.gen_has, gen_timed_out, ne_eq, C14.read_block, List.length_eq_zero_iff, List.length_pos_iff]
  by_cases hE : p.closed = true ∧ p.lens = []
  · rw [if_pos hE]; exact .inl ⟨rfl, fun h => by simp [h.1] at hE⟩
  rw [if_neg hE]
  by_cases hD : p.lens = []
  · have hc : p.closed = false := by
      cases hc : p.closed with
      | false => rfl
      | true => exact absurd ⟨hc, hD⟩ hE
    cases deadline with
    | none => rw [if_neg (fun h => h hD)]; exact .inr (.inr ⟨rfl, ⟨hc, hD⟩, fun _ h => by cases h⟩)
    | some d =>
      simp only []
      by_cases hX : d ≤ now
      · rw [if_pos hX]; exact .inr (.inl ⟨rfl, d, rfl, hX, hE⟩)
      · rw [if_neg hX, if_neg (fun h => h hD)]; exact .inr (.inr ⟨rfl, ⟨hc, hD⟩, fun _ h => by cases h; omega⟩)
  · cases deadline with
    | none => rw [if_pos hD]; exact .inl ⟨rfl, fun h => hD h.2⟩
    | some d =>
      simp only []
      by_cases hX : d ≤ now
      · rw [if_pos hX]; exact .inr (.inl ⟨rfl, d, rfl, hX, hE⟩)
      · rw [if_neg hX, if_pos hD]; exact .inl ⟨rfl, fun h => hD h.2⟩

/-- **without a deadline a pass through the loop is the untimed `DG.read`**: same answer (parking = `block`), same pipe -/
theorem no_deadline_is_plain (s : St) (cap : Nat) (h : s.deadline = none) :
    (eval s cap).1.p = (DG.read s.p cap).1 ∧
    (eval s cap).2 = (match (DG.read s.p cap).2 with | .block => .park | o => .r o) := by
  rcases eval_cases s cap with ⟨he, hnb⟩ | ⟨_, d, hd, _⟩ | ⟨he, hb, _⟩
  · rw [he]; exact ⟨rfl, by simp only [take]⟩
  · rw [h] at hd; cases hd
  · rw [he, hb]
    simp [C14.read_eq, (C14.read_block s.p cap).1 hb]

/-- a read that times out changes nothing: the datagrams stay queued, whole -/
theorem timeout_keeps (s : St) (cap : Nat) (h : (eval s cap).2 = .timeout) : (eval s cap).1 = s := by
  rcases eval_cases s cap with ⟨he, _⟩ | ⟨he, _⟩ | ⟨he, _⟩ <;> rw [he] at h ⊢ <;> cases h

/-- a read that parks changes nothing in the pipe (it may arm the timer) -/
theorem park_keeps (s : St) (cap : Nat) (h : (eval s cap).2 = .park) :
    toRun (eval s cap).1 = toRun s ∧ (eval s cap).1.now = s.now ∧ (eval s cap).1.deadline = s.deadline ∧
    (eval s cap).1.pending = s.pending := by
  rcases eval_cases s cap with ⟨he, _⟩ | ⟨he, _⟩ | ⟨he, _⟩ <;> rw [he] at h ⊢ <;> cases h
  exact ⟨rfl, rfl, rfl, rfl⟩

/-- **`ErrTimeout` is sound**: a pass answers `ErrTimeout` only if a deadline is set and has been reached, and EOF is not
due (a closed, drained pipe answers EOF whatever the deadline) -/
theorem c14_timeout_sound (s : St) (cap : Nat) (h : (eval s cap).2 = .timeout) :
    ∃ d, s.deadline = some d ∧ d ≤ s.now ∧ ¬ (s.p.closed = true ∧ s.p.lens.length = 0) := by
  rcases eval_cases s cap with ⟨he, _⟩ | ⟨_, hd⟩ | ⟨he, _⟩
  · rw [he] at h; cases h
  · exact hd
  · rw [he] at h; cases h

/-- and complete: with a deadline reached and EOF not due, the pass answers `ErrTimeout` — also when datagrams are queued -/
theorem c14_timeout_complete (s : St) (cap d : Nat) (hd : s.deadline = some d) (hle : d ≤ s.now)
    (hne : ¬ (s.p.closed = true ∧ s.p.lens.length = 0)) : eval s cap = (s, .timeout) := by
  unfold eval
  have heof : ¬ Gen.Datagram.dgEOF s.p.closed (s.p.lens.length : Int) = true := fun h => hne ((C14.gen_eof _ _).1 h)
  rw [if_neg heof, hd]
  simp only
  rw [if_pos ((gen_timed_out d s.now).2 hle)]

/-- a wake-up with a reader parked (buffer `cap`): the reader leaves with `DG.read`'s answer, or with `ErrTimeout`, or stays -/
theorem wake_cases (s : St) (cap : Nat) (h : s.pending = some cap) :
    (wake s).1 = { (take s cap).1 with pending := none } ∨ (wake s).1 = { s with pending := none } ∨
    ((wake s).1 = { s with timer := s.deadline <|> s.timer } ∧ (DG.read s.p cap).2 = .block ∧ ∀ d, s.deadline = some d → s.now < d) := by
  simp only [wake, h]
  rcases eval_cases s cap with ⟨e, _⟩ | ⟨e, _⟩ | ⟨e, hb⟩ <;> rw [e]
  · exact .inl rfl
  · exact .inr (.inl rfl)
  · exact .inr (.inr ⟨by rw [← h], hb⟩)

/-- a `Read` with no reader parked: the same three ways -/
theorem read_cases (s : St) (cap : Nat) (h : s.pending = none) :
    (step s (.r cap)).1 = (take s cap).1 ∨ (step s (.r cap)).1 = s ∨
    ((step s (.r cap)).1 = { s with timer := s.deadline <|> s.timer, pending := some cap } ∧
      (DG.read s.p cap).2 = .block ∧ ∀ d, s.deadline = some d → s.now < d) := by
  simp only [step, h]
  rcases eval_cases s cap with ⟨e, _⟩ | ⟨e, _⟩ | ⟨e, hb⟩ <;> rw [e]
  · exact .inl rfl
  · exact .inr (.inl rfl)
  · exact .inr (.inr ⟨rfl, hb⟩)

/-! ## deadlines add no behaviour to the pipe

Seen through `toRun`, an operation of the timed pipe is zero, one or two steps of the untimed one (a read that times out or
parks is none; a woken read is a read step, later): what the untimed steps preserve, the timed ones preserve. -/

section
variable (Q : C14.Run → Prop) (hQ : ∀ r op, Q r → Q (C14.step r op))
include hQ

theorem wake_run (s : St) (h : Q (toRun s)) : Q (toRun (wake s).1) := by
  cases hp : s.pending with
  | none => simp only [wake, hp]; exact h
  | some cap =>
    rcases wake_cases s cap hp with e | e | ⟨e, _⟩ <;> rw [e]
    · exact hQ _ (.r cap) h
    · exact h
    · exact h

theorem fire_run (s : St) (t : Nat) (h : Q (toRun s)) : Q (toRun (fire s t).1) := by
  unfold fire
  split
  · split
    · exact wake_run Q hQ _ h
    · exact h
  · exact h

theorem step_run (s : St) (op : Op) (h : Q (toRun s)) : Q (toRun (step s op).1) := by
  cases op with
  | w c d => exact wake_run Q hQ _ (hQ _ (.w c d) h)
  | r cap =>
    cases hp : s.pending with
    | some _ => simp only [step, hp]; exact h
    | none =>
      rcases read_cases s cap hp with e | e | ⟨e, _⟩ <;> rw [e]
      · exact hQ _ (.r cap) h
      · exact h
      · exact h
  | c => exact wake_run Q hQ _ (hQ _ .c h)
  | dl a => exact wake_run Q hQ _ h
  | adv dt => exact fire_run Q hQ _ _ (fire_run Q hQ _ _ h)

theorem run_run (h0 : Q C14.Run.init) (ops : List Op) : Q (toRun (run ops)) :=
  List.foldlRecOn (motive := fun s => Q (toRun s)) ops _ h0 (fun s h op _ => step_run Q hQ s op h)

end

/-- the pipe and the ghost lists of a timed run are those of some untimed run of `Props/C14.lean` (the reads that timed out or parked
left out, the woken ones moved to where they were woken): every theorem about `C14.run` speaks about the timed pipe -/
theorem timed_is_untimed (ops : List Op) : ∃ l : List C14.Op, toRun (run ops) = C14.run l :=
  run_run (fun r => ∃ l, r = C14.run l)
    (fun r op ⟨l, h⟩ => ⟨l ++ [op], by rw [h, C14.run, C14.run, List.foldl_append]; rfl⟩) ⟨[], rfl⟩ ops

/-- **C14 with read deadlines (whole messages, FIFO, at most once).**  After ANY sequence of arriving frames (data or
closing), reads with any buffer sizes — returning at once, timing out, or parking and being woken later by a write, a
close, a new deadline or the timer —, local closes, deadline changes (set, moved, cleared) and passages of time: the
datagrams the reads returned (in order) followed by the datagrams still queued are exactly the datagrams the pipe accepted,
in arrival order, each whole.  A deadline never loses, cuts, merges, duplicates or reorders a datagram. -/
theorem c14_deadline_fifo (ops : List Op) :
    ∃ q : List Bytes, C14.dataOf (run ops).outs ++ q = (run ops).acc ∧
      (run ops).p.lens = q.map List.length ∧ (run ops).p.buf = q.flatten := by
  obtain ⟨l, h⟩ := timed_is_untimed ops
  have := C14.c14_fifo_whole l
  rwa [← h] at this

/-! ## nothing stays parked past its deadline -/

/-- a parked reader under deadline `d` has the timer armed for exactly `d`, and `d` is still ahead; it is parked on an open,
empty pipe; an armed timer is always ahead of the clock -/
def Inv (s : St) : Prop :=
  (∀ cap d, s.pending = some cap → s.deadline = some d → s.timer = some d ∧ s.now < d) ∧
  (∀ cap, s.pending = some cap → (DG.read s.p cap).2 = .block) ∧
  (∀ f, s.timer = some f → s.now < f)

theorem inv_unparked (s : St) (hp : s.pending = none) (ht : ∀ f, s.timer = some f → s.now < f) : Inv s := by
  refine ⟨fun _ _ h => ?_, fun _ h => ?_, ht⟩ <;> rw [hp] at h <;> cases h

theorem inv_parked (s : St) (cap : Nat) (hb : (DG.read s.p cap).2 = .block) (hlt : ∀ d, s.deadline = some d → s.now < d)
    (ht : ∀ f, s.timer = some f → s.now < f) : Inv { s with timer := s.deadline <|> s.timer, pending := some cap } := by
  refine ⟨fun c d _ hd => ?_, fun c hc => ?_, fun f hf => ?_⟩
  · exact ⟨by rw [show s.deadline = some d from hd]; rfl, hlt d hd⟩
  · cases hc; exact hb
  · cases hd : s.deadline with
    | none => exact ht f (by rw [← hf, hd]; rfl)
    | some d => exact hlt f (by rw [← hf, hd]; rfl)

/-- a wake-up re-establishes the invariant from a state in which only the reader's own clauses may be stale -/
theorem wake_inv (s : St) (ht : ∀ f, s.timer = some f → s.now < f) : Inv (wake s).1 := by
  cases hp : s.pending with
  | none => simp only [wake, hp]; exact inv_unparked s hp ht
  | some cap =>
    rcases wake_cases s cap hp with e | e | ⟨e, hb, hlt⟩ <;> rw [e]
    · exact inv_unparked _ rfl ht
    · exact inv_unparked _ rfl ht
    · have := inv_parked s cap hb hlt ht
      rwa [← hp] at this

theorem fire_idle (s : St) (t : Nat) (h : ∀ f, s.timer = some f → t < f) : fire s t = (s, none) := by
  unfold fire
  split
  · next f hf => rw [if_neg (Nat.not_le.2 (h f hf))]
  · rfl

/-- after the timer had its chance, whatever is still armed lies beyond `t` (so `PDL.step`'s second `fire` does nothing).
A timer that fires leaves none armed: the reader it wakes cannot park again, since its deadline was the timer's time. -/
theorem fire_inv (s : St) (t : Nat) (h : Inv s) : Inv (fire s t).1 ∧ ∀ f, (fire s t).1.timer = some f → t < f := by
  unfold fire
  split
  · next f ht =>
    split
    · refine ⟨wake_inv { s with now := max s.now f, timer := none } (fun _ h => by cases h), fun f' hf' => ?_⟩
      exfalso
      cases hp : s.pending with
      | none => simp only [wake, hp] at hf'; cases hf'
      | some cap =>
        rcases wake_cases { s with now := max s.now f, timer := none } cap hp with e | e | ⟨e, _, hlt⟩ <;> rw [e] at hf'
        · cases hf'
        · cases hf'
        · cases hd : s.deadline with
          | none => rw [hd] at hf'; cases hf'
          | some d =>
            have hf : some f = some d := ht ▸ (h.1 cap d hp hd).1
            have := hlt d hd
            simp only at this
            cases hf; omega
    · exact ⟨h, fun f' hf' => by rw [ht] at hf'; cases hf'; omega⟩
  · next ht => exact ⟨h, fun f hf => by rw [ht] at hf; cases hf⟩

theorem step_inv (s : St) (op : Op) (h : Inv s) : Inv (step s op).1 := by
  cases op with
  | w c d => exact wake_inv _ h.2.2
  | r cap =>
    cases hp : s.pending with
    | some _ => simp only [step, hp]; exact h
    | none =>
      rcases read_cases s cap hp with e | e | ⟨e, hb, hlt⟩ <;> rw [e]
      · exact inv_unparked _ hp h.2.2
      · exact h
      · exact inv_parked s cap hb hlt h.2.2
  | c => exact wake_inv _ h.2.2
  | dl a => exact wake_inv _ h.2.2
  | adv dt =>
    obtain ⟨h1, b1⟩ := fire_inv s (s.now + dt) h
    simp only [step, fire_idle _ _ b1]
    exact ⟨fun c d hc hd => ⟨(h1.1 c d hc hd).1, b1 d (h1.1 c d hc hd).1⟩, h1.2.1, b1⟩

theorem run_inv (ops : List Op) : Inv (run ops) :=
  List.foldlRecOn ops _ (inv_unparked _ rfl (fun _ h => by cases h)) (fun s h op _ => step_inv s op h)

/-- **Nothing stays parked past its deadline.**  In every reachable state — any writes, reads, closes, deadline changes
and passages of time —: a reader that is parked while a deadline `d` is set has `now < d` (and the timer is armed for
exactly `d`, so it will be woken then); i.e. once the clock has reached the deadline no reader is parked. -/
theorem c14_returns_by_deadline (ops : List Op) (cap d : Nat)
    (hp : (run ops).pending = some cap) (hd : (run ops).deadline = some d) :
    (run ops).now < d ∧ (run ops).timer = some d := by
  obtain ⟨ht, hlt⟩ := (run_inv ops).1 cap d hp hd
  exact ⟨hlt, ht⟩

/-- … and a parked reader is parked for a reason: the pipe has nothing for it (open and empty) -/
theorem c14_parked_means_empty (ops : List Op) (cap : Nat) (hp : (run ops).pending = some cap) :
    (DG.read (run ops).p cap).2 = .block := (run_inv ops).2.1 cap hp

/-! ### non-vacuity -/

/-- two datagrams; a deadline at 100; the first read returns `[1,2]`; time passes to 150; the next read times out although
`[3]` is queued — and `[3]` is still there, whole; the deadline is moved to 300, the read returns `[3]`; a third read parks;
at 300 the timer wakes it with `ErrTimeout` -/
example :
    let ops := [Op.w 0 [1, 2], .w 0 [3], .dl (some 100), .r 5, .adv 150, .r 5, .dl (some 300), .r 5, .r 5, .adv 100, .adv 50]
    (run ops).outs = [.data [1, 2], .data [3]] ∧ (run ops).acc = [[1, 2], [3]] ∧ (run ops).pending = none ∧
    (run ops).now = 300 ∧
    ((step (run (ops.take 5)) (.r 5)).2.r = some .timeout) ∧
    ((step (run (ops.take 8)) (.r 5)).2.r = some .park) ∧
    ((step (run (ops.take 10)) (.adv 50)).2.woke = some .timeout) := by
  decide

/-- `c14_returns_by_deadline`'s hypotheses are met by a reachable state: a reader parked under deadline 300 at time 150 -/
example :
    let ops := [Op.dl (some 300), .adv 150, .r 5]
    (run ops).pending = some 5 ∧ (run ops).deadline = some 300 ∧ (run ops).timer = some 300 ∧ (run ops).now = 150 := by
  decide

end C14D

#print axioms C14D.c14_deadline_fifo
#print axioms C14D.c14_returns_by_deadline
#print axioms C14D.c14_timeout_sound
#print axioms C14D.no_deadline_is_plain
