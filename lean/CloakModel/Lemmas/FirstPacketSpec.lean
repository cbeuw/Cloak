import CloakModel.Model.FirstPacket

/-! Specification-level first-packet reader on a FLAT byte stream (`FPS.fpFlat`, no chunks, no `Gen`), and its
properties: every outcome is `Sound` (conservation: consumed ++ rest = stream; the close-only outcome happens exactly
when the stream ran out inside the first packet), prefix stability, and the relay in one equation (`relay_run`).  `Props/C09.lean` proves that the
executable model `FP.readFirstPacket` (built from the extracted `Gen.FirstPacket` terms, over any chunking)
equals this specification. -/
set_option linter.unusedSimpArgs false
set_option linter.unusedVariables false

namespace FPS
open FP

def specLen (s : Bytes) : Nat := beNat ((s.drop 3).take 2)

def closeOut (data : Bytes) (t : Transport) : Out := ⟨data, t, false, .readErr, true⟩

/-- the request-line/header loop on a flat stream; `ls` = where the current line started -/
def wsFlat (ls : Nat) (data : Bytes) : Bytes → Out × Bytes
  | [] => if data.length < 3000 then (closeOut data .ws, []) else (⟨data, .ws, true, .shortBuffer, false⟩, [])
  | b :: t =>
    if data.length < 3000 then
      if b = 10 then
        if (data ++ [b]).drop ls = [13, 10] then (⟨data ++ [b], .ws, true, .ok, false⟩, t)
        else wsFlat (data.length + 1) (data ++ [b]) t
      else wsFlat ls (data ++ [b]) t
    else (⟨data, .ws, true, .shortBuffer, false⟩, b :: t)

/-- the `case 0x16` branch on the whole flat stream `s` (first byte included) -/
def tlsFlat (s : Bytes) : Out × Bytes :=
  if s.length < 5 then (closeOut s .tls, [])
  else if 3000 < specLen s + 5 then (⟨s.take 5, .tls, true, .shortBuffer, false⟩, s.drop 5)
  else if s.length < 5 + specLen s then (closeOut s .tls, [])
  else (⟨s.take (5 + specLen s), .tls, true, .ok, false⟩, s.drop (5 + specLen s))

def fpFlat (s : Bytes) : Out × Bytes :=
  match s with
  | [] => (closeOut [] .none, [])
  | b :: t =>
    if b = 22 then tlsFlat (b :: t)
    else if b = 71 then wsFlat 1 [b] t
    else (⟨[b], .none, true, .unrecognised, false⟩, t)

/-- what every outcome `r` of the flat readers satisfies on the stream `inp`: consumed ++ rest = stream; at most a
buffer full consumed; "close only" only when the stream ran out inside the first packet (everything consumed, fewer
than 3000 bytes); otherwise the connection is kept and `redirOnErr` is set -/
structure Sound (inp : Bytes) (r : Out × Bytes) : Prop where
  conserve : r.1.data ++ r.2 = inp
  bound : r.1.data.length ≤ 3000
  ranOut : r.1.err = .readErr → r.2 = [] ∧ inp.length < 3000 ∧ r.1.redirOnErr = false ∧ r.1.closed = true
  kept : r.1.err ≠ .readErr → r.1.redirOnErr = true ∧ r.1.closed = false

/-! ### the line loop -/

theorem wsFlat_sound : ∀ (s : Bytes) (ls : Nat) (data : Bytes), data.length ≤ 3000 →
    Sound (data ++ s) (wsFlat ls data s) := by
  intro s
  induction s with
  | nil => intro ls data h; unfold wsFlat; split <;> constructor <;> simp [closeOut] <;> omega
  | cons b t ih =>
    intro ls data h
    have e : data ++ b :: t = (data ++ [b]) ++ t := by simp
    unfold wsFlat
    split
    · have h' : (data ++ [b]).length ≤ 3000 := by simp; omega
      split
      · split
        · constructor <;> simp; omega
        · rw [e]; exact ih _ _ h'
      · rw [e]; exact ih _ _ h'
    · constructor <;> simp <;> omega

/-- prefix stability: once the loop has come to a verdict other than "stream ran out", further bytes change nothing -/
theorem wsFlat_stable : ∀ (p : Bytes) (ls : Nat) (data t : Bytes),
    (wsFlat ls data p).1.err ≠ .readErr →
    wsFlat ls data (p ++ t) = ((wsFlat ls data p).1, (wsFlat ls data p).2 ++ t) := by
  intro p
  induction p with
  | nil =>
    intro ls data t h
    unfold wsFlat at h
    split at h
    · simp [closeOut] at h
    · rename_i hge
      cases t with
      | nil => unfold wsFlat; simp [hge]
      | cons b t' => simp only [List.nil_append]; unfold wsFlat; simp [hge]
  | cons b p ih =>
    intro ls data t h
    simp only [List.cons_append]
    unfold wsFlat at h ⊢
    split
    · rename_i hlt
      rw [if_pos hlt] at h
      split
      · rename_i hb
        rw [if_pos hb] at h
        split
        · rfl
        · rename_i hterm
          rw [if_neg hterm] at h
          exact ih _ _ _ h
      · rename_i hb
        rw [if_neg hb] at h
        exact ih _ _ _ h
    · rfl

/-! ### the whole first packet -/

theorem specLen_append (p t : Bytes) (h : 5 ≤ p.length) : specLen (p ++ t) = specLen p := by
  unfold specLen
  rw [List.drop_append, List.take_append]
  have h1 : 3 - p.length = 0 := by omega
  have h3 : 2 - (p.length - 3) = 0 := by omega
  simp [h1, h3]

theorem tlsFlat_sound (s : Bytes) : Sound s (tlsFlat s) := by
  unfold tlsFlat
  split
  · constructor <;> simp [closeOut] <;> omega
  · split
    · constructor <;> simp <;> omega
    · split
      · constructor <;> simp [closeOut] <;> omega
      · constructor <;> simp <;> omega

theorem tlsFlat_stable (p t : Bytes) (h : (tlsFlat p).1.err ≠ .readErr) :
    tlsFlat (p ++ t) = ((tlsFlat p).1, (tlsFlat p).2 ++ t) := by
  unfold tlsFlat at h ⊢
  by_cases h5 : p.length < 5
  · simp [h5, closeOut] at h
  rw [specLen_append p t (by omega), List.length_append, if_neg (by omega)]
  by_cases hov : 3000 < specLen p + 5
  · simp [h5, hov, List.take_append_of_le_length, List.drop_append_of_le_length, (show 5 ≤ p.length by omega)]
  · by_cases hlen : p.length < 5 + specLen p
    · simp [h5, hov, hlen, closeOut] at h
    · rw [if_neg hov, if_neg (by omega)]
      simp [h5, hov, hlen, List.take_append_of_le_length, List.drop_append_of_le_length,
        (show 5 + specLen p ≤ p.length by omega)]

theorem fpFlat_sound (s : Bytes) : Sound s (fpFlat s) := by
  unfold fpFlat
  cases s with
  | nil => constructor <;> simp [closeOut]
  | cons b t =>
    simp only
    split
    · exact tlsFlat_sound _
    · split
      · exact wsFlat_sound t 1 [b] (by simp)
      · constructor <;> simp

theorem fpFlat_conserve (s : Bytes) : (fpFlat s).1.data ++ (fpFlat s).2 = s := (fpFlat_sound s).conserve

theorem fpFlat_bound (s : Bytes) : (fpFlat s).1.data.length ≤ 3000 := (fpFlat_sound s).bound

/-- **close-only ⇔ the stream ran out inside the first packet**: the reader consumed the entire stream (fewer
than 3000 bytes) and still needed more.  Otherwise the connection is kept and `redirOnErr` is set. -/
theorem fpFlat_close (s : Bytes) :
    ((fpFlat s).1.err = .readErr → (fpFlat s).1.data = s ∧ (fpFlat s).2 = [] ∧ s.length < 3000 ∧
        (fpFlat s).1.redirOnErr = false ∧ (fpFlat s).1.closed = true) ∧
    ((fpFlat s).1.err ≠ .readErr → (fpFlat s).1.redirOnErr = true ∧ (fpFlat s).1.closed = false) := by
  refine ⟨fun h => ?_, (fpFlat_sound s).kept⟩
  have h' := (fpFlat_sound s).ranOut h
  exact ⟨by simpa [h'.1] using (fpFlat_sound s).conserve, h'⟩

/-- **prefix stability**: if the reader reaches a verdict on `p` other than "stream ran out", it reaches the
same verdict, having consumed the same bytes, on `p` followed by anything -/
theorem fpFlat_stable (p t : Bytes) (h : (fpFlat p).1.err ≠ .readErr) :
    fpFlat (p ++ t) = ((fpFlat p).1, (fpFlat p).2 ++ t) := by
  cases p with
  | nil => simp [fpFlat, closeOut] at h
  | cons b p' =>
    simp only [List.cons_append]
    unfold fpFlat at h ⊢
    simp only at h ⊢
    split
    · rename_i hb
      rw [if_pos hb] at h
      have := tlsFlat_stable (b :: p') t h
      simpa using this
    · rename_i hb
      rw [if_neg hb] at h
      split
      · rename_i hw
        rw [if_pos hw] at h
        exact wsFlat_stable _ _ _ _ h
      · rfl

/-! ### relay -/

def isEOF : Ev → Bool
  | .peerEOF => true
  | .targetEOF => true
  | _ => false

/-- the events up to (excluding) the first EOF of either side -/
def live : List Ev → List Ev
  | [] => []
  | e :: es => if isEOF e then [] else e :: live es

def peerChunks : List Ev → List Bytes
  | [] => []
  | .peer b :: es => b :: peerChunks es
  | _ :: es => peerChunks es

def targetChunks : List Ev → List Bytes
  | [] => []
  | .target b :: es => b :: targetChunks es
  | _ :: es => targetChunks es

theorem relay_closed : ∀ (evs : List Ev) (r : Relay), r.open = false → evs.foldl relayStep r = r := by
  intro evs
  induction evs with
  | nil => intro r _; rfl
  | cons e es ih =>
    intro r h
    rw [List.foldl_cons]
    have : relayStep r e = r := by cases e <;> simp [relayStep, h]
    rw [this]; exact ih r h

/-- does either side end its stream at all -/
def anyEOF : List Ev → Bool
  | [] => false
  | e :: es => isEOF e || anyEOF es

/-- the relay after any course of events, in one equation -/
theorem relay_run : ∀ (evs : List Ev) (r : Relay), r.open = true →
    evs.foldl relayStep r =
      { r with toTarget := r.toTarget ++ peerChunks (live evs), toPeer := r.toPeer ++ targetChunks (live evs),
               «open» := !anyEOF evs, peerClosed := r.peerClosed || anyEOF evs,
               targetClosed := r.targetClosed || anyEOF evs } := by
  intro evs
  induction evs with
  | nil => intro r h; cases r; simp_all [live, peerChunks, targetChunks, anyEOF]
  | cons e es ih =>
    intro r h
    rw [List.foldl_cons]
    cases e with
    | peer b | target b =>
      rw [ih _ (by simp [relayStep, h])]; simp [relayStep, h, live, isEOF, peerChunks, targetChunks, anyEOF]
    | peerEOF | targetEOF =>
      rw [relay_closed es _ (by simp [relayStep, h])]; simp [relayStep, h, live, isEOF, peerChunks, targetChunks, anyEOF]

theorem relay_fold (evs : List Ev) (r : Relay) (h : r.open = true) :
    (evs.foldl relayStep r).toTarget = r.toTarget ++ peerChunks (live evs) ∧
    (evs.foldl relayStep r).toPeer = r.toPeer ++ targetChunks (live evs) ∧
    (evs.foldl relayStep r).dialed = r.dialed := by
  rw [relay_run evs r h]; exact ⟨rfl, rfl, rfl⟩

/-- the first EOF of either side closes BOTH conns (`common.Copy`'s deferred `src.Close(); dst.Close()`); while neither
side has ended, both stay as they were -/
theorem relay_closes : ∀ (evs : List Ev) (r : Relay), r.open = true →
    ((evs.foldl relayStep r).open = !anyEOF evs) ∧
    (anyEOF evs = true → (evs.foldl relayStep r).peerClosed = true ∧ (evs.foldl relayStep r).targetClosed = true) ∧
    (anyEOF evs = false → (evs.foldl relayStep r).peerClosed = r.peerClosed ∧ (evs.foldl relayStep r).targetClosed = r.targetClosed) := by
  intro evs r h
  rw [relay_run evs r h]
  cases anyEOF evs <;> simp

/-! ### the target's reply, as the property speaks of it -/

/-- everything the target sends before it ends its own stream — whatever the peer does with its sending direction -/
def targetReply : List Ev → List Bytes
  | [] => []
  | .targetEOF :: _ => []
  | .target b :: es => b :: targetReply es
  | _ :: es => targetReply es

/-- the peer ends its sending direction (FIN) while the target has not ended its stream -/
def peerEndsFirst : List Ev → Bool
  | [] => false
  | .peerEOF :: _ => true
  | .targetEOF :: _ => false
  | _ :: es => peerEndsFirst es

/-- unless the peer half-closes first, "up to the first EOF of either side" IS the target's whole reply -/
theorem live_reply : ∀ evs : List Ev, peerEndsFirst evs = false → targetChunks (live evs) = targetReply evs := by
  intro evs
  induction evs with
  | nil => intro _; rfl
  | cons e es ih =>
    intro h
    cases e with
    | peer b => simp [live, isEOF, targetChunks, targetReply, peerEndsFirst] at h ⊢; exact ih h
    | target b => simp [live, isEOF, targetChunks, targetReply, peerEndsFirst] at h ⊢; exact ih h
    | peerEOF => simp [peerEndsFirst] at h
    | targetEOF => simp [live, isEOF, targetChunks, targetReply]

end FPS
