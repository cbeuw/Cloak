import CloakModel.Lemmas.HsBytes

/-! Layout of the client's 48-byte authentication plaintext and the server's reading of it. -/
set_option linter.unusedSimpArgs false
set_option linter.unusedVariables false

namespace HS
open Gen.Handshake

/-- the flag byte the client writes -/
def flagByte (u : Bool) : UInt8 := if u then (0 ||| UInt8.ofNat cFlagMask) else 0

/-- client offsets as regenerated from `makeAuthenticationPayload` -/
theorem gen_client_layout :
    cPlainLen = 48 ∧ cUidAtZero = true ∧ cMethodLo = 16 ∧ cMethodHi = 28 ∧ cEncIdx = 28 ∧ cTsLo = 29 ∧ cTsHi = 37 ∧
    cSidLo = 37 ∧ cSidHi = 41 ∧ cFlagIdx = 41 ∧ cFlagMask = 1 ∧ cNonceLo = 0 ∧ cNonceHi = 12 ∧
    cTsIsUnixSeconds = true ∧ cSealArgs = true ∧ cPayloadShape = true := by and_intros <;> rfl

/-- server offsets as regenerated from `decryptClientInfo` -/
theorem gen_server_layout :
    sUidLo = 0 ∧ sUidHi = 16 ∧ sMethodLo = 16 ∧ sMethodHi = 28 ∧ sEncIdx = 28 ∧ sTsLo = 29 ∧ sTsHi = 37 ∧
    sSidLo = 37 ∧ sSidHi = 41 ∧ sFlagIdx = 41 ∧ sFlagMask = 1 ∧ sNonceLo = 0 ∧ sNonceHi = 12 ∧ sTrimCutset = [0] ∧
    sOpenArgs = true := by and_intros <;> rfl

/-- **the plaintext, spelled out**: UID16 ‖ method fitted to 12 ‖ enc ‖ be64 ts ‖ be32 sid ‖ flags ‖ 6 zero -/
theorem mkPlain_layout (a : AuthInfo) (ts : Int) (hu : a.uid.length = 16) :
    mkPlain a ts =
      a.uid ++ (fit 12 a.method ++ ([a.enc] ++ (beBytes 8 (u64OfInt ts) ++ (beBytes 4 a.sid ++
      ([flagByte a.unordered] ++ zeros 6))))) := by
  have h5 : blit (blit (blit (blit (blit (zeros 48) 0 48 a.uid) 16 28 a.method) 28 (28 + 1) [a.enc]) 29 37
      (beBytes 8 (u64OfInt ts))) 37 41 (beBytes 4 a.sid) =
      a.uid ++ fit 12 a.method ++ [a.enc] ++ beBytes 8 (u64OfInt ts) ++ beBytes 4 a.sid ++ zeros 7 := by
    rw [blit_fresh, fit_short (by omega), hu,
      blit_zeros 12 a.method (by simp [hu]) rfl (by omega),
      blit_zeros 1 [a.enc] (by simp [hu, fit_length]) rfl (by omega),
      blit_zeros 8 (beBytes 8 _) (by simp [hu, fit_length]) rfl (by omega),
      blit_zeros 4 (beBytes 4 _) (by simp [hu, fit_length]) rfl (by omega),
      fit_eq 1 _ rfl, fit_eq 8 _ (beBytes_length ..), fit_eq 4 _ (beBytes_length ..)]
  simp only [mkPlain, cPlainLen, cMethodLo, cMethodHi, cEncIdx, cTsLo, cTsHi, cSidLo, cSidHi, cFlagIdx, cFlagMask, h5]
  -- the flag is a read-modify-write of byte 41, still zero
  generalize hw : a.uid ++ fit 12 a.method ++ [a.enc] ++ beBytes 8 (u64OfInt ts) ++ beBytes 4 a.sid = w
  have hwl : 41 = w.length := by simp [← hw, hu, fit_length]
  have hs : slice (w ++ zeros 7) 41 (41 + 1) = [0] := (hwl ▸ At.mk w ([0] ++ zeros 6)).slice rfl
  rw [hs, blit_zeros 1 _ hwl rfl (by omega)]
  cases a.unordered <;> simp [← hw, flagByte, fit, zeros, cFlagMask]

set_option maxRecDepth 4000 in
theorem flag_roundtrip (u : Bool) : ((flagByte u &&& UInt8.ofNat sFlagMask) != 0) = u := by
  cases u <;> decide

/-- **what the server reads in the client's plaintext**: it has the 48 bytes the server needs, the timestamp field is
the client's timestamp, and the fields are the configured ones -/
theorem read_mkPlain (a : AuthInfo) (ts : Int) (hu : a.uid.length = 16) (hm : a.method.length ≤ 12)
    (hmh : a.method.head? ≠ some 0) (hml : a.method.getLast? ≠ some 0) (hs : a.sid < 4294967296)
    (hts1 : -9223372036854775808 ≤ ts) (hts2 : ts < 9223372036854775808) :
    (mkPlain a ts).length = 48 ∧ plainTs (mkPlain a ts) = ts ∧
    plainInfo (mkPlain a ts) (beNat (slice (mkPlain a ts) sSidLo sSidHi)) = some a.toClientInfo := by
  have c0 := At.of_eq (mkPlain_layout a ts hu)
  generalize mkPlain a ts = pt at c0 ⊢
  have hT : (beBytes 8 (u64OfInt ts)).length = 8 := beBytes_length ..
  have hS : (beBytes 4 a.sid).length = 4 := beBytes_length ..
  have hM := fit_length 12 a.method
  have c16 : At _ 16 _ := c0.skip (by omega)
  have c28 : At _ 28 _ := c16.skip (by omega)
  have c29 : At _ 29 _ := c28.skip rfl
  have c37 : At _ 37 _ := c29.skip (by omega)
  have c41 : At _ 41 _ := c37.skip (by omega)
  refine ⟨by simpa [zeros] using c41.length, ?_, ?_⟩
  · rw [plainTs, sTsLo, sTsHi, c29.slice (by omega), beNat_beBytes_lt 8 _ (u64_lt ts), i64_u64 ts hts1 hts2]
  · rw [sSidLo, sSidHi, c37.slice (by omega), beNat_beBytes_lt 4 a.sid (by simpa using hs)]
    simp only [plainInfo, sEncIdx, sFlagIdx, sUidLo, sUidHi, sMethodLo, sMethodHi, sTrimCutset, c28.get, c41.get,
      c0.slice (q := 16) (by omega), c16.slice (q := 28) (by omega), fit_short hm, trim_padded a.method _ hmh hml,
      flag_roundtrip, Option.bind_eq_bind, Option.bind_some, Option.pure_def, bind, pure]
    rfl

end HS
