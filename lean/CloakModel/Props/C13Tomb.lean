import CloakModel.Props.C13
import CloakModel.Gen.Tomb

/-! # C13: the ids of the streams an endpoint creates are never reused

`C13.c13_nonce_unique_peer_ids` assumes `(streams.map (·.1)).Nodup`: the accepting endpoint never creates two `Stream` objects
(each numbering its frames from 0) for one id.  Here that assumption is a theorem about the stream table, from the regenerated
fact `Gen.Tomb.tombstonesPermanent` (nothing takes a closed id's mark out of the table before the session ends).

The table as a state machine: a slot is absent, live or a tombstone; `recv id` (a frame for `id` arrives:
`recvDataFromRemote`) creates a stream iff the slot is absent; `close id` (either side closes the stream: `closeStream`) turns
a live slot into a tombstone; `forget id` is what a tree WITHOUT permanent tombstones could do (take the mark out again). -/

namespace C13T

inductive Slot | absent | live | tomb deriving DecidableEq, Repr

structure Tbl where
  slot : Nat → Slot
  created : List Nat      -- ids for which a Stream object was made, in order (each numbers its frames from 0)

def init : Tbl := ⟨fun _ => .absent, []⟩

inductive Ev | recv (id : Nat) | close (id : Nat) | forget (id : Nat)

def upd (f : Nat → Slot) (id : Nat) (v : Slot) : Nat → Slot := fun k => if k = id then v else f k

def step (permanent : Bool) (t : Tbl) : Ev → Tbl
  | .recv id => match t.slot id with
    | .absent => ⟨upd t.slot id .live, t.created ++ [id]⟩
    | _ => t                                  -- live: the frame goes to the existing stream; tombstone: dropped
  | .close id => match t.slot id with
    | .live => { t with slot := upd t.slot id .tomb }
    | _ => t
  | .forget id =>
    if permanent then t
    else match t.slot id with
      | .tomb => { t with slot := upd t.slot id .absent }
      | _ => t

def run (permanent : Bool) (evs : List Ev) : Tbl := evs.foldl (step permanent) init

theorem gen_tombstones : Gen.Tomb.tombstonesPermanent = true ∧ Gen.Tomb.streamTableDeletes = 1 := ⟨rfl, rfl⟩

def Inv (t : Tbl) : Prop := (∀ id ∈ t.created, t.slot id ≠ .absent) ∧ t.created.Nodup

theorem step_inv (t : Tbl) (e : Ev) (h : Inv t) : Inv (step true t e) := by
  obtain ⟨h1, h2⟩ := h
  cases e with
  | recv id =>
    simp only [step]
    cases hs : t.slot id with
    | absent =>
      simp only
      refine ⟨?_, ?_⟩
      · intro k hk
        simp only [upd]
        by_cases hki : k = id
        · simp [hki]
        · simp only [hki, if_false]
          rw [List.mem_append] at hk
          rcases hk with hk | hk
          · exact h1 k hk
          · simp at hk; exact absurd hk hki
      · rw [List.nodup_append]
        refine ⟨h2, by simp, ?_⟩
        intro a ha b hb
        simp at hb
        subst hb
        intro hab
        subst hab
        exact h1 a ha hs
    | live => exact ⟨h1, h2⟩
    | tomb => exact ⟨h1, h2⟩
  | close id =>
    simp only [step]
    cases hs : t.slot id with
    | live =>
      simp only
      refine ⟨?_, h2⟩
      intro k hk
      simp only [upd]
      by_cases hki : k = id
      · simp [hki]
      · simp only [hki, if_false]; exact h1 k hk
    | absent => exact ⟨h1, h2⟩
    | tomb => exact ⟨h1, h2⟩
  | forget id => exact ⟨h1, h2⟩

/-- **The ids of the streams an endpoint creates are pairwise distinct** — for every history of arriving frames and closes, on
a tree whose closed-id marks are permanent: the hypothesis `hids` of `C13.c13_nonce_unique_peer_ids` -/
theorem c13_ids_never_reused (evs : List Ev) : (run Gen.Tomb.tombstonesPermanent evs).created.Nodup := by
  rw [gen_tombstones.1]
  exact (List.foldlRecOn evs (step true) (motive := Inv) ⟨(by intro id h; cases h), List.nodup_nil⟩
    (fun t h e _ => step_inv t e h)).2

/-- without permanent marks the statement is false: frame, close, forget, late frame — stream 1 is made twice (seed C13-5) -/
theorem c13_forgetful_witness : ¬ (run false [.recv 1, .close 1, .forget 1, .recv 1]).created.Nodup := by decide

/-- non-vacuity: frames for 1 and 2, 1 closed, a late frame for 1 is dropped, 3 arrives -/
example : (run Gen.Tomb.tombstonesPermanent [.recv 1, .recv 2, .close 1, .forget 1, .recv 1, .recv 3]).created = [1, 2, 3] := by decide

end C13T

#print axioms C13T.c13_ids_never_reused
