import CloakModel.Model.FirstPacket
import CloakModel.Lemmas.Framing
import CloakModel.Lemmas.FirstPacketSpec
import CloakModel.Lemmas.GenBridge

/-! # C09 — Unauthenticated peers see only the redirect target, byte for byte

(1) bridging lemmas about the extracted terms of `readFirstPacket` / `connReadLine` / `dispatchConnection`
(`Gen.FirstPacket.*`); (2) `readFirstPacket_flat`: the executable model over ANY chunking of the peer's stream
equals the flat specification `FPS.fpFlat` of the concatenated stream (segmentation independence — built on the
`readFull` lemma shared with C05); (3) `run_rejecting`, the whole connection of a rejected peer in one equation, and
the property theorems `c09_exact`, `c09_complete_redirects`
(+ `c09_close_only_iff_ran_out`, `c09_prefix_stable`), `c09_silent`, `c09_total`. -/
set_option linter.unusedSimpArgs false
set_option linter.unusedVariables false

namespace C09
open Rec FP FPS Gen.FirstPacket

/-! ## 1. Extracted facts mean what the proofs need -/

theorem gen_buf : bufLen = 3000 ∧ firstPacketSize = 3000 := by decide

theorem gen_first : fpFirstFull = true ∧ fpFirstLo 0 0 = 0 ∧ sliceLen (fpFirstLo 0 0) (fpFirstHi 0 0) = 1 := by decide

theorem gen_bytes : fpTLSByte = 22 ∧ fpWSByte = 71 := ⟨rfl, rfl⟩

/-- the header read lands at `bufOffset` (= 1) and fills up to the record-layer length 5 -/
theorem gen_hdr : fpHdrFull = true ∧ fpInitOffset = 1 ∧ fpRecordLayerLength = 5 ∧ fpHdrLo fpInitOffset 0 = fpInitOffset ∧
    sliceLen (fpHdrLo fpInitOffset 0) (fpHdrHi fpInitOffset 0) = 4 := by decide

theorem gen_len : fpLenLo.toNat = 3 ∧ fpLenHi.toNat = 5 ∧ sliceLen fpLenLo fpLenHi = 2 := by decide

theorem gen_oversize (d b : Nat) : fpOversize (d : Int) (b : Int) = true ↔ b < d + 5 := by
  unfold fpOversize; gen_bool

/-- the body read lands right after the header (offset 5) and is `dataLength` long -/
theorem gen_body (d : Nat) : fpBodyFull = true ∧ fpBodyLo fpInitOffset (d : Int) = 5 ∧
    sliceLen (fpBodyLo fpInitOffset (d : Int)) (fpBodyHi fpInitOffset (d : Int)) = d := by
  refine ⟨by decide, ?_, ?_⟩
  · unfold fpBodyLo; omega
  · unfold sliceLen fpBodyLo fpBodyHi; omega

theorem gen_crl_loop (i n : Nat) : crlLoop (i : Int) (n : Int) = true ↔ i < n := by
  unfold crlLoop; gen_bool

/-- `connReadLine`: one byte per iteration with `io.ReadFull`, into `buf[i]`; newline is 10; returns `i+1` -/
theorem gen_crl (i : Nat) : crlReadFull = true ∧ crlInit = 0 ∧ crlReadLo (i : Int) = i ∧
    sliceLen (crlReadLo (i : Int)) (crlReadHi (i : Int)) = 1 ∧ byteOf crlNewline = 10 ∧
    (crlRetOnNewline (i : Int)).toNat = i + 1 ∧ crlReturns = true := by
  refine ⟨by decide, by decide, ?_, ?_, by decide, ?_, by decide⟩
  · unfold crlReadLo; omega
  · unfold sliceLen crlReadLo crlReadHi; omega
  · unfold crlRetOnNewline; omega

theorem gen_term : fpTerminator.map UInt8.ofNat = [13, 10] := by decide

/-- `redirOnErr` / `conn.Close()` of every exit of `readFirstPacket`: a read error closes and does not redirect;
oversize record, full buffer and unrecognised first byte keep the connection and redirect -/
theorem gen_redir :
    fpFirstErrRedir = false ∧ fpHdrErrRedir = false ∧ fpBodyErrRedir = false ∧ fpLineErrRedir = false ∧
    fpFirstErrCloses = true ∧ fpHdrErrCloses = true ∧ fpBodyErrCloses = true ∧ fpLineErrCloses = true ∧
    fpOversizeRedir = true ∧ fpLineFullRedir = true ∧ fpDefaultRedir = true ∧
    fpOversizeKeepsConn = true ∧ fpLineFullKeepsConn = true ∧ fpDefaultNoRead = true := by and_intros <;> rfl

/-- shape of `readFirstPacket`: three direct reads; `switch buf[0]` with exactly TLS / WebSocket / default;
`bufOffset += i` after header, body and every line; the line loop; final `return bufOffset, transport, true, nil`;
deadline set and cleared -/
theorem gen_shape :
    fpReads = 3 ∧ fpSwitchShape = true ∧ fpOffsetAdds = 3 ∧ fpLineLoopShape = true ∧ fpFinalReturn = true ∧
    fpDeadline = true ∧ dcFirstPacketTimeout = 15000000000 := by decide

/-- `dispatchConnection`: `data := buf[:i]`; every rejection branch is exactly `goWeb(); return`; a first-packet error
redirects iff `redirOnErr` and otherwise closes; the admin branch returns; the branches come in the modelled order and
nothing outside the admin branch calls `finishHandshake`/`conn.Write` before the last rejection branch -/
theorem gen_actions :
    dcDataIsConsumedPrefix = true ∧ dcReadErrRedirAction = 1 ∧ dcReadErrElseAction = 2 ∧
    dcAuthErrAction = 1 ∧ dcObfsErrAction = 1 ∧ dcBadMethodAction = 1 ∧ dcBadUserAction = 1 ∧
    dcAdminReturns = true ∧ dcBranchOrder = true ∧ dcQuietBeforeRejections = true ∧ dcPeerWrites = 0 := by
  and_intros <;> rfl

/-- `goWeb`: dial, ONE `webConn.Write`, of exactly `data`, then the two `common.Copy` goroutines; it never writes to the peer -/
theorem gen_goweb (n : Nat) :
    goWebTargetWrites = 1 ∧ goWebShape = true ∧ goWebPeerWrites = 0 ∧ goWebDeadlinesSet = 0 ∧
    (goWebWriteLo (n : Int)).toNat = 0 ∧ (goWebWriteHi (n : Int)).toNat = n := by
  refine ⟨by decide, by decide, by decide, by decide, ?_, ?_⟩
  · unfold goWebWriteLo; omega
  · unfold goWebWriteHi; omega

/-- the hand-written parsers start with `defer func(){ if recover() != nil { err = … } }()` on a named result;
`parseExtensions` may instead rely on the guard of `parseClientHello` when that is its only caller -/
theorem gen_recover : recover_parseKeyShare = true ∧ recover_parseClientHello = true ∧
    (recover_parseExtensions = true ∨ parseExtensionsOnlyUnderParseClientHello = true) := by
  decide

theorem goWebWrite_id (data : Bytes) : goWebWrite data = data := by
  unfold goWebWrite
  rw [(gen_goweb data.length).2.2.2.2.1, (gen_goweb data.length).2.2.2.2.2]
  simp

/-! ## 2. The chunked model equals the flat specification -/

theorem readFull_one {cs : Chunks} :
    (cs.flatten = [] → readFull 1 cs = none) ∧
    (∀ x t, cs.flatten = x :: t → ∃ rest, readFull 1 cs = some ([x], rest) ∧ rest.flatten = t) := by
  constructor
  · intro h
    exact (readFull_spec cs 1).2 (by rw [h]; decide)
  · intro x t h
    obtain ⟨rest, h1, h2⟩ := (readFull_spec cs 1).1 (by rw [h]; simp)
    refine ⟨rest, ?_, ?_⟩
    · rw [h1, h]; rfl
    · rw [h2, h]; rfl

theorem wsScan_flat : ∀ (fuel ls : Nat) (data : Bytes) (cs : Chunks), 3000 < fuel + data.length → ls ≤ data.length →
    (wsScan fuel ls data cs).1 = (wsFlat ls data cs.flatten).1 ∧
    (wsScan fuel ls data cs).2.flatten = (wsFlat ls data cs.flatten).2 := by
  intro fuel
  induction fuel with
  | zero =>
    intro ls data cs hf hls
    have hge : ¬ data.length < 3000 := by omega
    unfold wsScan
    rw [gen_redir.2.2.2.2.2.2.2.2.2.1]
    cases hcs : cs.flatten with
    | nil => unfold wsFlat; simp [hge]
    | cons b t => unfold wsFlat; simp [hge]
  | succ fuel ih =>
    intro ls data cs hf hls
    unfold wsScan
    simp only
    have hloop : crlLoop ((data.length - ls : Nat) : Int) ((bufLen - ls : Nat) : Int) = true ↔ data.length < 3000 := by
      rw [gen_crl_loop, gen_buf.1]; omega
    obtain ⟨hfull, _, _, hone, hnl, hret, _⟩ := gen_crl (data.length - ls)
    by_cases hlt : data.length < 3000
    · rw [if_pos (hloop.2 hlt), hfull, hone]
      unfold readWith
      simp only [if_true]
      cases hcs : cs.flatten with
      | nil =>
        rw [readFull_one.1 hcs]
        unfold wsFlat
        simp [hlt, closeOut, gen_redir.2.2.2.1, gen_redir.2.2.2.2.2.2.2.1]
      | cons x t =>
        obtain ⟨rest, hr, hrest⟩ := readFull_one.2 x t hcs
        rw [hr]
        simp only
        rw [hnl, hret, gen_term]
        unfold wsFlat
        rw [if_pos hlt]
        by_cases hx : x = 10
        · subst hx
          simp only [if_true]
          have htake : ((data ++ [10]).drop ls).take (data.length - ls + 1) = (data ++ [10]).drop ls := by
            apply List.take_of_length_le; simp; omega
          rw [htake]
          by_cases hterm : (data ++ [10]).drop ls = [13, 10]
          · rw [if_pos hterm, if_pos hterm]; exact ⟨rfl, hrest⟩
          · rw [if_neg hterm, if_neg hterm]
            have := ih (data ++ [10]).length (data ++ [10]) rest (by simp; omega) (Nat.le_refl _)
            rw [hrest] at this
            simpa using this
        · have hne : ¬ ([x] = [(10 : UInt8)]) := by simpa using hx
          rw [if_neg hne, if_neg hx]
          have := ih ls (data ++ [x]) rest (by simp; omega) (by simp; omega)
          rw [hrest] at this
          exact this
    · have hnl' : ¬ crlLoop ((data.length - ls : Nat) : Int) ((bufLen - ls : Nat) : Int) = true := fun h => hlt (hloop.1 h)
      rw [if_neg hnl', gen_redir.2.2.2.2.2.2.2.2.2.1]
      cases hcs : cs.flatten with
      | nil => unfold wsFlat; simp [hlt]
      | cons b t => unfold wsFlat; simp [hlt]

theorem declaredLen_eq (s : Bytes) (h : 5 ≤ s.length) : FP.declaredLen (s.take 5) = specLen s := by
  unfold FP.declaredLen specLen
  obtain ⟨h3, h5, h2⟩ := gen_len
  rw [h3, h5, h2]
  exact congrArg beNat (lenField_take5 s h)

theorem uint8_eq_of_toNat (b : UInt8) (n : Nat) (hn : n < 256) : ((b.toNat : Int) = (n : Int)) ↔ b = UInt8.ofNat n := by
  constructor
  · intro h
    have : b.toNat = n := by omega
    rw [← this]; simp
  · intro h; subst h; simp; omega

/-- **Segmentation independence of the first-packet reader**: on any chunking, the executable model (built from the
extracted terms) returns what the flat specification returns on the concatenated stream, and leaves the same bytes. -/
theorem readFirstPacket_flat (cs : Chunks) :
    (readFirstPacket cs).1 = (fpFlat cs.flatten).1 ∧ (readFirstPacket cs).2.flatten = (fpFlat cs.flatten).2 := by
  unfold readFirstPacket
  obtain ⟨hF, _, h1⟩ := gen_first
  rw [hF, h1]
  unfold readWith
  simp only [if_true]
  cases hcs : cs.flatten with
  | nil =>
    rw [readFull_one.1 hcs]
    simp [fpFlat, closeOut, gen_redir.1, gen_redir.2.2.2.2.1]
  | cons b t =>
    obtain ⟨rest, hr, hrest⟩ := readFull_one.2 b t hcs
    rw [hr]
    simp only
    obtain ⟨hT, hW⟩ := gen_bytes
    obtain ⟨hHF, hoff, _, _, h4⟩ := gen_hdr
    rw [hT, hW]
    have e22 : ((b.toNat : Int) = 22) ↔ b = 22 := uint8_eq_of_toNat b 22 (by decide)
    have e71 : ((b.toNat : Int) = 71) ↔ b = 71 := uint8_eq_of_toNat b 71 (by decide)
    unfold fpFlat
    simp only
    by_cases hb : b = 22
    · rw [if_pos (e22.2 hb), if_pos hb, hHF, h4]
      simp only [if_true]
      unfold tlsFlat
      cases hr2 : readFull 4 rest with
      | none =>
        have := readFull_none hr2
        rw [hrest] at this
        have hl : (b :: t).length < 5 := by simp; omega
        rw [if_pos hl, hrest]
        simp [closeOut, gen_redir.2.1, gen_redir.2.2.2.2.2.1]
      | some pr =>
        obtain ⟨h, rest2⟩ := pr
        obtain ⟨hlen, hh, hrest2⟩ := readFull_some hr2
        rw [hrest] at hlen hh hrest2
        have hl : ¬ (b :: t).length < 5 := by simp; omega
        rw [if_neg hl]
        simp only
        have hhdr : [b] ++ h = (b :: t).take 5 := by rw [hh]; rfl
        have hdl : FP.declaredLen ([b] ++ h) = specLen (b :: t) := by
          rw [hhdr]; exact declaredLen_eq _ (by simp; omega)
        rw [hdl, gen_buf.1]
        by_cases hov : 3000 < specLen (b :: t) + 5
        · rw [if_pos ((gen_oversize _ _).2 hov), if_pos hov, gen_redir.2.2.2.2.2.2.2.2.1, hhdr]
          refine ⟨rfl, ?_⟩
          rw [hrest2]; rfl
        · have hno : ¬ fpOversize ((specLen (b :: t) : Nat) : Int) ((3000 : Nat) : Int) = true := fun h' => hov ((gen_oversize _ _).1 h')
          rw [if_neg hno, if_neg hov, (gen_body 0).1, (gen_body _).2.2]
          simp only [if_true]
          cases hr3 : readFull (specLen (b :: t)) rest2 with
          | none =>
            have h3 := readFull_none hr3
            rw [hrest2, List.length_drop] at h3
            have hl2 : (b :: t).length < 5 + specLen (b :: t) := by simp; omega
            rw [if_pos hl2]
            simp only [closeOut, gen_redir.2.2.1, gen_redir.2.2.2.2.2.2.1]
            refine ⟨?_, rfl⟩
            congr 1
            rw [hhdr, hrest2]
            have : List.drop 4 t = List.drop 5 (b :: t) := rfl
            rw [this, List.take_append_drop]
          | some pr3 =>
            obtain ⟨body, rest3⟩ := pr3
            obtain ⟨hlen3, hbody, hrest3⟩ := readFull_some hr3
            rw [hrest2] at hlen3 hbody hrest3
            rw [List.length_drop] at hlen3
            have hl2 : ¬ (b :: t).length < 5 + specLen (b :: t) := by simp; omega
            rw [if_neg hl2]
            simp only
            refine ⟨?_, ?_⟩
            · congr 1
              rw [hhdr, hbody]
              have : List.drop 4 t = List.drop 5 (b :: t) := rfl
              rw [this, ← List.take_add]
            · rw [hrest3]
              have : List.drop 4 t = List.drop 5 (b :: t) := rfl
              rw [this, List.drop_drop]
    · have n22 : ¬ ((b.toNat : Int) = 22) := fun h => hb (e22.1 h)
      rw [if_neg n22, if_neg hb]
      by_cases hw : b = 71
      · rw [if_pos (e71.2 hw), if_pos hw, hoff, gen_buf.1]
        have := wsScan_flat (3000 + 1) 1 [b] rest (by simp) (by simp)
        rw [hrest] at this
        exact this
      · have n71 : ¬ ((b.toNat : Int) = 71) := fun h => hw (e71.1 h)
        rw [if_neg n71, if_neg hw, gen_redir.2.2.2.2.2.2.2.2.2.2.1]
        exact ⟨rfl, hrest⟩

/-! ## 3. The property -/

/-- verdicts `dispatchConnection` can reach for a peer that is NOT a valid, fresh Cloak handshake from an authorised
user (the class C09 speaks about).  `sessErr` (an authorised user over its session cap) is outside that class. -/
def Rejecting : Verdict → Prop
  | .authFail | .obfsFail | .badMethod | .badUser => True
  | _ => False

theorem decide_rejecting (o : Out) (v : Verdict) (hv : Rejecting v) :
    decideAction o v = if o.err ≠ .ok ∧ o.redirOnErr = false then .close else .web := by
  obtain ⟨_, h1, h2, h3, h4, h5, h6, _⟩ := gen_actions
  unfold decideAction
  rw [h1, h2, h3, h4, h5, h6]
  by_cases he : o.err ≠ .ok
  · by_cases hr : o.redirOnErr = true
    · simp [he, hr, actionOfCode]
    · simp [he, hr, actionOfCode]
  · cases v <;> simp [Rejecting] at hv <;> simp [he, actionOfCode]

/-- for a rejected peer the action is `web` unless the stream ran out inside the first packet (then `close`) -/
theorem action_rejecting (cs : Chunks) (v : Verdict) (hv : Rejecting v) :
    decideAction (readFirstPacket cs).1 v = if (fpFlat cs.flatten).1.err = .readErr then .close else .web := by
  rw [decide_rejecting _ _ hv, (readFirstPacket_flat cs).1]
  have hc := fpFlat_close cs.flatten
  by_cases he : (fpFlat cs.flatten).1.err = .readErr
  · obtain ⟨_, _, _, hr, _⟩ := hc.1 he
    simp [he, hr]
  · have := (hc.2 he).1
    simp [he, this]

/-- what `goWeb` does at its two fault points: when the redirect target cannot be dialled it closes the peer conn; when
the first write to the target fails it closes the half-open target conn and the peer conn (and returns) -/
theorem gen_goweb_errors :
    goWebDialErrClosesPeer = true ∧ goWebWriteErrClosesPeer = true ∧ goWebWriteErrClosesTarget = true := ⟨rfl, rfl, rfl⟩

theorem run_of_web (cs : Chunks) (v : Verdict) (evs : List Ev) (h : decideAction (readFirstPacket cs).1 v = .web) :
    run cs v .up evs = (.web, evs.foldl relayStep
      ⟨true, goWebWrite (readFirstPacket cs).1.data :: (readFirstPacket cs).2, [], true, false, false⟩) := by
  unfold run runWith; simp only; rw [h]

/-- **what the server does with a rejected peer, in one equation**: close only, if the stream ran out inside the first
packet; otherwise `goWeb` — the relay (`relay_run`) when the target is up, and at its two fault points the peer conn
(and a half-open target conn) closed -/
theorem run_rejecting (cs : Chunks) (v : Verdict) (hv : Rejecting v) (tg : Target) (evs : List Ev) :
    run cs v tg evs =
      if (fpFlat cs.flatten).1.err = .readErr then (.close, ⟨false, [], [], false, true, false⟩)
      else match tg with
        | .up => (.web, ⟨true, (readFirstPacket cs).1.data :: (readFirstPacket cs).2 ++ peerChunks (live evs),
                          targetChunks (live evs), !anyEOF evs, anyEOF evs, anyEOF evs⟩)
        | .dialFails => (.close, ⟨true, [], [], false, true, false⟩)
        | .writeFails => (.close, ⟨true, [], [], false, true, true⟩) := by
  have ha := action_rejecting cs v hv
  unfold run runWith
  simp only
  by_cases he : (fpFlat cs.flatten).1.err = .readErr
  · rw [ha, if_pos he, if_pos he]
  · rw [ha, if_neg he, if_neg he]
    cases tg with
    | up => simp [relay_run, goWebWrite_id]
    | dialFails => simp [gen_goweb_errors.1]
    | writeFails => simp [gen_goweb_errors.2.1, gen_goweb_errors.2.2]

/-- **C09 (exactness).** For EVERY peer stream — any bytes, any length, cut into chunks anywhere, ending anywhere —
every rejecting verdict, every behaviour of the redirect target (up, refusing the dial, failing the first write) and
every later course of events (peer chunks, target chunks, either side ending its stream, each processed to quiescence):
* if the server relays (`web`; the target is up), the bytes written to the target are exactly the peer's stream: the
  consumed first packet, then what was already waiting, then every later peer chunk up to the first EOF — nothing added,
  dropped or reordered; and the bytes written to the peer are exactly the target's chunks up to the first EOF;
* otherwise the action is `close`: nothing at all is written to either side, the peer conn IS closed (never "neither
  relayed nor closed"); a target is dialled only if it then turns out to be unavailable, and a half-open target conn
  is closed too. -/
theorem c09_exact (cs : Chunks) (v : Verdict) (hv : Rejecting v) (tg : Target) (evs : List Ev) :
    (tg = .up ∧ (run cs v tg evs).1 = .web ∧
        (run cs v tg evs).2.toTarget.flatten = cs.flatten ++ (peerChunks (live evs)).flatten ∧
        (run cs v tg evs).2.toPeer = targetChunks (live evs) ∧ (run cs v tg evs).2.dialed = true) ∨
    ((run cs v tg evs).1 = .close ∧ (run cs v tg evs).2.toTarget = [] ∧ (run cs v tg evs).2.toPeer = [] ∧
        (run cs v tg evs).2.peerClosed = true ∧
        ((run cs v tg evs).2.dialed = true → tg ≠ .up ∧ (tg = .writeFails → (run cs v tg evs).2.targetClosed = true))) := by
  rw [run_rejecting cs v hv]
  split
  · right; simp
  · cases tg with
    | up =>
      left
      -- consumed first packet ++ what was already waiting = the peer's stream: the flat reader conserves it
      have hfl := readFirstPacket_flat cs
      simp [hfl.1, hfl.2, ← List.append_assoc, fpFlat_conserve]
    | dialFails => right; simp
    | writeFails => right; simp

example : (run [[0x99, 1], [2]] .authFail .up [.target [7], .peer [3], .peerEOF, .target [8]]).2 =
    ⟨true, [[0x99], [1], [2], [3]], [[7]], false, true, true⟩ := by decide

/-- **C09 (close only when the stream ran out or the target is unavailable).** For a rejected peer the server closes
without relaying exactly when the peer's stream ended (EOF or 15 s of silence) inside the first record / request —
then the reader had consumed every byte the peer sent, fewer than 3000, and was still waiting for more — or the
redirect target could not be reached. -/
theorem c09_close_only_iff_ran_out (cs : Chunks) (v : Verdict) (hv : Rejecting v) (tg : Target) (evs : List Ev) :
    (run cs v tg evs).1 = .close ↔ ((fpFlat cs.flatten).1.err = .readErr ∨ tg ≠ .up) := by
  rw [run_rejecting cs v hv]
  split
  · simp [*]
  · cases tg <;> simp [*]

theorem c09_ran_out_consumed_all (s : Bytes) (h : (fpFlat s).1.err = .readErr) :
    (fpFlat s).1.data = s ∧ (fpFlat s).2 = [] ∧ s.length < 3000 :=
  let ⟨a, b, c, _⟩ := (fpFlat_close s).1 h
  ⟨a, b, c⟩

/-- **C09 (redirect target unavailable: the peer is closed, never left hanging).** Whatever the peer sent and however a
rejected connection got as far as `goWeb`: if the redirect target cannot be dialled, or takes the connection and fails
the first write, the peer conn is closed without a byte having been written to it, and the half-open target conn is
closed as well — "relayed or just closed", nothing in between. -/
theorem c09_target_unavailable (cs : Chunks) (v : Verdict) (hv : Rejecting v) (tg : Target) (htg : tg ≠ .up) (evs : List Ev) :
    (run cs v tg evs).1 = .close ∧ (run cs v tg evs).2.peerClosed = true ∧ (run cs v tg evs).2.toPeer = [] ∧
    (run cs v tg evs).2.toTarget = [] ∧
    ((run cs v tg evs).2.dialed = true → tg = .writeFails → (run cs v tg evs).2.targetClosed = true) := by
  rcases c09_exact cs v hv tg evs with h | h
  · exact absurd h.1 htg
  · exact ⟨h.1, h.2.2.2.1, h.2.2.1, h.2.1, fun hd hw => (h.2.2.2.2 hd).2 hw⟩

/-- the pinned code (`goWeb` just `return`s at both fault points — the three facts are `false`): the connection of a
peer that sent an unrecognisable first byte is neither relayed nor closed when the target cannot be dialled, and when
the first write fails the target conn is left open as well -/
theorem c09_unavailable_pinned_witness :
    runWith false false false [[0x99, 1, 2]] .authFail .dialFails [] = (.drop, ⟨true, [], [], false, false, false⟩) ∧
    runWith false false false [[0x99, 1, 2]] .authFail .writeFails [] = (.drop, ⟨true, [], [], false, false, false⟩) := by
  decide

example : run [[0x99, 1, 2]] .authFail .dialFails [.peer [1]] = (.close, ⟨true, [], [], false, true, false⟩) ∧
    run [[0x99, 1, 2]] .authFail .writeFails [] = (.close, ⟨true, [], [], false, true, true⟩) := by decide

/-- **C09 (prefix stability).** If the first-packet reader comes to a verdict on a stream `p` (complete record or
request, oversize header, over-long line, unrecognisable first byte), then for every continuation `t` and every
chunking of `p ++ t` the server relays (to a target that is up), having consumed exactly the same first packet. -/
theorem c09_prefix_stable (p t : Bytes) (cs : Chunks) (v : Verdict) (hv : Rejecting v) (evs : List Ev)
    (hp : (fpFlat p).1.err ≠ .readErr) (hcs : cs.flatten = p ++ t) :
    (run cs v .up evs).1 = .web ∧ (readFirstPacket cs).1 = (fpFlat p).1 := by
  have hst := fpFlat_stable p t hp
  have hne : ¬ (fpFlat cs.flatten).1.err = .readErr := by rw [hcs, hst]; exact hp
  refine ⟨?_, ?_⟩
  · rcases c09_exact cs v hv .up evs with h | h
    · exact h.2.1
    · exact absurd ((c09_close_only_iff_ran_out cs v hv .up evs).1 h.1) (by simp [hne])
  · rw [(readFirstPacket_flat cs).1, hcs, hst]

/-- **C09 (complete first packets are always relayed).** For a rejected peer, on ANY chunking, the server relays
(never "close only" — the redirect target being up) as soon as the peer's stream `s`
(a) starts with a byte other than 0x16 / 0x47, or
(b) starts with a 0x16 record header declaring more than fits the 3000-byte buffer, or
(c) contains a complete 0x16 record, or
(d) is at least 3000 bytes long (over-long request line / header block — whatever it starts with), or
(e) extends any stream on which the reader already came to a verdict (e.g. a request up to its empty line). -/
theorem c09_complete_redirects (cs : Chunks) (v : Verdict) (hv : Rejecting v) (evs : List Ev) :
    let s := cs.flatten
    ((∃ b t, s = b :: t ∧ b ≠ 22 ∧ b ≠ 71) → (run cs v .up evs).1 = .web) ∧
    ((∃ t, s = 22 :: t ∧ 5 ≤ s.length ∧ 3000 < specLen s + 5) → (run cs v .up evs).1 = .web) ∧
    ((∃ t, s = 22 :: t ∧ 5 + specLen s ≤ s.length) → (run cs v .up evs).1 = .web) ∧
    (3000 ≤ s.length → (run cs v .up evs).1 = .web) ∧
    (∀ p t, s = p ++ t → (fpFlat p).1.err ≠ .readErr → (run cs v .up evs).1 = .web) := by
  have key : ¬ (fpFlat cs.flatten).1.err = .readErr → (run cs v .up evs).1 = .web := by
    intro hne
    rcases c09_exact cs v hv .up evs with h | h
    · exact h.2.1
    · exact absurd ((c09_close_only_iff_ran_out cs v hv .up evs).1 h.1) (by simp [hne])
  refine ⟨?_, ?_, ?_, ?_, ?_⟩
  · rintro ⟨b, t, hs, h22, h71⟩
    apply key; rw [hs]; simp [fpFlat, h22, h71]
  · rintro ⟨t, hs, h5, hov⟩
    apply key
    have : fpFlat cs.flatten = tlsFlat cs.flatten := by rw [hs]; simp [fpFlat]
    rw [this]; unfold tlsFlat
    rw [if_neg (by omega), if_pos hov]; simp
  · rintro ⟨t, hs, hlen⟩
    apply key
    have : fpFlat cs.flatten = tlsFlat cs.flatten := by rw [hs]; simp [fpFlat]
    rw [this]; unfold tlsFlat
    by_cases hov : 3000 < specLen cs.flatten + 5
    · rw [if_neg (by omega), if_pos hov]; simp
    · rw [if_neg (by omega), if_neg hov, if_neg (by omega)]; simp
  · intro hlen
    apply key
    intro he
    have := (c09_ran_out_consumed_all _ he).2.2
    omega
  · intro p t hs hp
    exact (c09_prefix_stable p t cs v hv evs hp hs).1

/-- a complete HTTP request (its empty line reached) — with or without anything after it — and an over-long line -/
-- "GET /\r\nH:a\r\n\r\nB": complete at the empty line, "B" is left for the relay;  "G\n\n": LF-only never completes
example : (fpFlat [71, 69, 84, 32, 47, 13, 10, 72, 58, 97, 13, 10, 13, 10, 66]).1.err = .ok ∧
    (fpFlat [71, 69, 84, 32, 47, 13, 10, 72, 58, 97, 13, 10, 13, 10, 66]).2 = [66] := by decide
example : (fpFlat [71, 10, 10]).1.err = .readErr := by decide
example : (readFirstPacket [[22, 3], [1, 0, 2, 9], [9, 7]]).1 = ⟨[22, 3, 1, 0, 2, 9, 9], .tls, true, .ok, false⟩ := by decide

/-! ### "the peer receives exactly the bytes the target replies with" — and the peer's half close

`c09_exact` delivers the target's chunks *up to the first EOF of either side*.  The property says more: the peer
receives the bytes the target replies with — all of them, for all peer streams and all response scripts of the target,
including a peer that sends its request, ends its sending direction (TCP FIN, `shutdown(SHUT_WR)`) and then reads the
answer.  The code does not do that: `common.Copy` closes BOTH conns as soon as ONE direction sees EOF
(`relayStep`), so whatever the target sends after the peer's FIN is lost. -/

/-- the full statement: whenever the server relays, the peer is sent exactly what the target sends before the target
ends its own stream -/
def c09_reply_full : Prop :=
  ∀ (cs : Chunks) (v : Verdict) (evs : List Ev), Rejecting v → (run cs v .up evs).1 = .web →
    (run cs v .up evs).2.toPeer = targetReply evs

/-- **C09 (reply, partial).** The full statement holds for every course of events in which the peer does not end its
sending direction before the target has ended its stream (it may of course end it afterwards, or never). -/
theorem c09_reply_partial (cs : Chunks) (v : Verdict) (hv : Rejecting v) (evs : List Ev)
    (hnh : peerEndsFirst evs = false) (hw : (run cs v .up evs).1 = .web) :
    (run cs v .up evs).2.toPeer = targetReply evs := by
  rcases c09_exact cs v hv .up evs with h | h
  · rw [h.2.2.2.1, live_reply evs hnh]
  · rw [h.1] at hw; simp at hw

/-- **C09 (reply, witness).** The full statement is FALSE of the code: an unrecognisable first byte, then the peer's
FIN, then a one-byte reply of the target — the reply is not delivered (and both conns are closed by then). -/
theorem c09_reply_witness : ¬ c09_reply_full := by
  intro h
  have := h [[0x99]] .authFail [.peerEOF, .target [7]] (by simp [Rejecting]) (by decide)
  revert this
  decide

example : (run [[0x99]] .authFail .up [.peerEOF, .target [7]]).2 = ⟨true, [[0x99]], [], false, true, true⟩ ∧
    targetReply [.peerEOF, .target [7]] = [[7]] := by decide

theorem actionOfCode_ne_handshake (n : Nat) : actionOfCode n ≠ .handshake := by
  unfold actionOfCode; split <;> simp

theorem runWith_handshake (a b c : Bool) (cs : Chunks) (v : Verdict) (tg : Target) (evs : List Ev) :
    (runWith a b c cs v tg evs).1 = .handshake ↔ decideAction (readFirstPacket cs).1 v = .handshake := by
  unfold runWith; simp only
  cases hda : decideAction (readFirstPacket cs).1 v <;> cases tg <;> cases a <;> cases b <;> simp

/-- **C09 (silence).** The server answers in its own voice (`finishHandshake`) only for a complete first packet of an
admin or an admitted proxy user.  On every other path — any stream, chunking, verdict and later events — each chunk
written to the peer is one of the target's chunks, in order (or nothing is written at all); structurally: `goWeb` and
`dispatchConnection` contain no `conn.Write`, and nothing before the last rejection branch (outside the admin branch)
calls `finishHandshake`. -/
theorem c09_silent (cs : Chunks) (v : Verdict) (tg : Target) (evs : List Ev) :
    ((run cs v tg evs).1 = .handshake ↔ (readFirstPacket cs).1.err = .ok ∧ (v = .admin ∨ v = .proxy)) ∧
    ((run cs v tg evs).1 ≠ .handshake →
        (run cs v tg evs).2.toPeer = targetChunks (live evs) ∨ (run cs v tg evs).2.toPeer = []) ∧
    (goWebPeerWrites = 0 ∧ dcPeerWrites = 0 ∧ dcQuietBeforeRejections = true ∧ dcAdminReturns = true) := by
  have hd : ∀ o : Out, decideAction o v = .handshake ↔ o.err = .ok ∧ (v = .admin ∨ v = .proxy) := by
    intro o
    unfold decideAction
    by_cases he : o.err = .ok
    · cases v <;> simp [he, actionOfCode_ne_handshake]
    · by_cases hr : o.redirOnErr = true <;> simp [he, hr, actionOfCode_ne_handshake]
  refine ⟨?_, ?_, by decide⟩
  · unfold run; rw [runWith_handshake]; exact hd _
  · intro _
    cases hda : decideAction (readFirstPacket cs).1 v with
    | web =>
      cases tg with
      | up =>
        left
        rw [run_of_web cs v evs hda]
        have := (relay_fold evs ⟨true, goWebWrite (readFirstPacket cs).1.data :: (readFirstPacket cs).2, [], true, false, false⟩ rfl).2.1
        rw [this]; rfl
      | dialFails => right; unfold run runWith; simp only; rw [hda]
      | writeFails => right; unfold run runWith; simp only; rw [hda]
    | _ =>
      right
      unfold run runWith; simp only; rw [hda]

/-- **C09 (total — as far as this model goes).** `readFirstPacket`'s model is a total function with an explicit outcome
for every stream (no buffer index can leave `[0, 3000]`: `FPS.fpFlat_bound`), the decision for a rejected peer is always
`web` or `close` — whatever the redirect target does: never "neither relayed nor closed", never an unclassified branch —
and the `recover()` guards that turn out-of-range slicing in the hand-written ClientHello parsers into an error are in
place (`gen_recover`). -/
theorem c09_total (cs : Chunks) (v : Verdict) (hv : Rejecting v) (tg : Target) (evs : List Ev) :
    ((run cs v tg evs).1 = .web ∨ ((run cs v tg evs).1 = .close ∧ (run cs v tg evs).2.peerClosed = true)) ∧
    (readFirstPacket cs).1.data.length ≤ 3000 ∧
    (recover_parseKeyShare = true ∧ recover_parseClientHello = true ∧
      (recover_parseExtensions = true ∨ parseExtensionsOnlyUnderParseClientHello = true)) := by
  refine ⟨?_, ?_, gen_recover⟩
  · rcases c09_exact cs v hv tg evs with h | h
    · exact Or.inl h.2.1
    · exact Or.inr ⟨h.1, h.2.2.2.1⟩
  · rw [(readFirstPacket_flat cs).1]; exact fpFlat_bound _

end C09

#print axioms C09.readFirstPacket_flat
#print axioms C09.c09_exact
#print axioms C09.c09_complete_redirects
#print axioms C09.c09_silent
#print axioms C09.c09_total
#print axioms C09.c09_target_unavailable
#print axioms C09.c09_reply_partial
#print axioms C09.c09_reply_witness
