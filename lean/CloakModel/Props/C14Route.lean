import CloakModel.Model.Route

/-! C14 (stream isolation) for the client's local routing table `client.RouteUDP`: theorems over ALL event histories
of the state machine `Route` (Model/Route.lean).  -/
namespace C14R
open Route

/-! ## the extracted facts the model rests on -/

/-- the reuse test is the one the model was written against: a new session exactly when not singleplex and the
current one is nil or closed -/
theorem gen_route_reuse : ∀ s n c : Bool, Gen.Route.routeUDPReuse s n c = (!s && (n || c)) := by decide

/-- statement order / lock scope / captured address / delete sites / deadline refresh sites of RouteUDP -/
theorem gen_route_structure :
    Gen.Route.routeUDPLookupOpenInsertLocked = true ∧ Gen.Route.routeUDPOpenFailPath = true ∧
    Gen.Route.routeUDPProxyAddrCaptured = true ∧ Gen.Route.routeUDPDeleteSites = 2 ∧
    Gen.Route.routeUDPDeletesAllLocked = true ∧ Gen.Route.routeUDPReturnLoop = true ∧
    Gen.Route.routeUDPDeadlineRefreshSites = 3 := by and_intros <;> rfl

/-- RouteTCP: same reuse test; first read of 1..10240 bytes under the deadline, which is then cleared; one OpenStream;
what each error path closes; then exactly the two copies between the local connection and ITS stream -/
theorem gen_route_tcp :
    (∀ s n c : Bool, Gen.Route.routeTCPReuse s n c = (!s && (n || c))) ∧
    Gen.Route.routeTCPFirstReadBuf = 10240 ∧ Gen.Route.routeTCPFirstReadMin = 1 ∧
    Gen.Route.routeTCPFirstReadOrder = true ∧ Gen.Route.routeTCPReadFailCloses = "localConn" ∧
    Gen.Route.routeTCPOpenFailCloses = "localConn,singleplex:sesh" ∧
    Gen.Route.routeTCPWriteFailCloses = "localConn,stream" ∧ Gen.Route.routeTCPCopiesBothWays = true :=
  -- `rfl`, not `decide`: deciding an equation between strings is dear
  ⟨by decide, rfl, rfl, rfl, rfl, rfl, rfl, rfl⟩

/-! ## the invariant -/

structure Inv (st : St) : Prop where
  /-- (c) every table entry names an opened stream, opened for that very address, whose return goroutine is live -/
  tbl : ∀ a s, (a, s) ∈ st.table → ∃ r ∈ st.streams, r.id = s ∧ r.addr = a ∧ r.live = true
  keys : ∀ a s1 s2, (a, s1) ∈ st.table → (a, s2) ∈ st.table → s1 = s2
  ids : ∀ r ∈ st.streams, r.id < st.nextId
  uniq : ∀ r1 ∈ st.streams, ∀ r2 ∈ st.streams, r1.id = r2.id → r1.addr = r2.addr
  wr : ∀ a s pl, (a, s, pl) ∈ st.writes → ∃ r ∈ st.streams, r.id = s ∧ r.addr = a
  dl : ∀ s a pl, (s, a, pl) ∈ st.delivs → ∃ r ∈ st.streams, r.id = s ∧ r.addr = a
  sessLt : ∀ r ∈ st.streams, r.sess < st.nextSess
  curLt : ∀ k, st.cur = some k → k < st.nextSess
  sp : st.single = true → ∀ r1 ∈ st.streams, ∀ r2 ∈ st.streams, r1.sess = r2.sess → r1.id = r2.id

theorem inv_init (single : Bool) (max : Nat) : Inv (St.init single max) := by
  constructor <;> simp [St.init]

theorem mem_delete {t : List (Nat × Nat)} {a : Nat} {p : Nat × Nat} : p ∈ delete t a ↔ p ∈ t ∧ p.1 ≠ a := by
  simp [delete]

theorem lookup_some {t : List (Nat × Nat)} {a s : Nat} (h : lookup t a = some s) : (a, s) ∈ t := by
  obtain ⟨⟨x, y⟩, hf, rfl⟩ := Option.map_eq_some_iff.1 h
  have hx : x = a := by simpa using List.find?_some hf
  exact hx ▸ List.mem_of_find?_eq_some hf

theorem lookup_none {t : List (Nat × Nat)} {a : Nat} (h : lookup t a = none) : ∀ s, (a, s) ∉ t := by
  intro s hm
  simpa using List.find?_eq_none.1 (Option.map_eq_none_iff.1 h) (a, s) hm

theorem rec_some {st : St} {s : Nat} {r : SRec} (h : rec? st s = some r) : r ∈ st.streams ∧ r.id = s := by
  unfold rec? at h
  have h1 := List.find?_some h
  have h2 := List.mem_of_find?_eq_some h
  simp at h1
  exact ⟨h2, h1⟩

/-- streams are only ever modified in their flags; the table only shrinks -/
theorem Inv.modify {st : St} (h : Inv st) (f : SRec → SRec) (t' : List (Nat × Nat)) (d : List Nat)
    (hid : ∀ r, (f r).id = r.id) (haddr : ∀ r, (f r).addr = r.addr) (hsess : ∀ r, (f r).sess = r.sess)
    (ht : ∀ p ∈ t', p ∈ st.table)
    (hl : ∀ a s, (a, s) ∈ t' → ∀ r ∈ st.streams, r.id = s → (f r).live = r.live) :
    Inv { st with table := t', streams := st.streams.map f, deadSess := d } := by
  constructor
  · intro a s hm
    obtain ⟨r, hr, h1, h2, h3⟩ := h.tbl a s (ht _ hm)
    refine ⟨f r, List.mem_map_of_mem hr, ?_, ?_, ?_⟩
    · simp [hid, h1]
    · simp [haddr, h2]
    · rw [hl a s hm r hr h1]; exact h3
  · intro a s1 s2 h1 h2; exact h.keys a s1 s2 (ht _ h1) (ht _ h2)
  · intro r hr
    obtain ⟨r0, hr0, rfl⟩ := List.mem_map.mp hr
    simp only [hid]; exact h.ids r0 hr0
  · intro r1 h1 r2 h2 he
    obtain ⟨a1, ha1, rfl⟩ := List.mem_map.mp h1
    obtain ⟨a2, ha2, rfl⟩ := List.mem_map.mp h2
    simp only [hid, haddr] at *
    exact h.uniq a1 ha1 a2 ha2 he
  · intro a s pl hm
    obtain ⟨r, hr, h1, h2⟩ := h.wr a s pl hm
    exact ⟨f r, List.mem_map_of_mem hr, by simp [hid, h1], by simp [haddr, h2]⟩
  · intro s a pl hm
    obtain ⟨r, hr, h1, h2⟩ := h.dl s a pl hm
    exact ⟨f r, List.mem_map_of_mem hr, by simp [hid, h1], by simp [haddr, h2]⟩
  · intro r hr
    obtain ⟨r0, hr0, rfl⟩ := List.mem_map.mp hr
    simp only [hsess]; exact h.sessLt r0 hr0
  · exact h.curLt
  · intro hs r1 h1 r2 h2 he
    obtain ⟨a1, ha1, rfl⟩ := List.mem_map.mp h1
    obtain ⟨a2, ha2, rfl⟩ := List.mem_map.mp h2
    simp only [hid, hsess] at *
    exact h.sp hs a1 ha1 a2 ha2 he

theorem Inv.closeStream {st : St} (h : Inv st) (s : Nat) : Inv (closeStream st s) := by
  refine h.modify (fun r => if r.id == s then { r with closed := true } else r) st.table st.deadSess ?_ ?_ ?_ (fun _ hp => hp) ?_
  all_goals (intros; split <;> rfl)

theorem Inv.closeSession {st : St} (h : Inv st) (k : Nat) : Inv (closeSession st k) := by
  refine h.modify (fun r => if r.sess == k then { r with closed := true } else r) st.table (k :: st.deadSess) ?_ ?_ ?_ (fun _ hp => hp) ?_
  all_goals (intros; split <;> rfl)

theorem Inv.dropEntry {st : St} (h : Inv st) (a : Nat) : Inv { st with table := delete st.table a } := by
  have := h.modify id (delete st.table a) st.deadSess (fun _ => rfl) (fun _ => rfl) (fun _ => rfl)
    (fun p hp => (mem_delete.mp hp).1) (fun _ _ _ _ _ _ => rfl)
  simpa using this

theorem Inv.newSession {st : St} (h : Inv st) (b : Bool) : Inv (newSession st b) :=
  { h with
    sessLt := fun r hr => Nat.lt_succ_of_lt (h.sessLt r hr)
    curLt := fun k hk => by cases hk; exact Nat.lt_succ_self _ }

theorem Inv.retExit {st : St} (h : Inv st) (s : Nat) : Inv (retExit st s) := by
  unfold Route.retExit
  cases hr : rec? st s with
  | none => exact h
  | some r =>
    obtain ⟨hmem, hid⟩ := rec_some hr
    simp only
    split
    · refine h.modify (fun x => if x.id == s then { x with closed := true, live := false } else x) (delete st.table r.addr) st.deadSess
        ?_ ?_ ?_ (fun p hp => (mem_delete.mp hp).1) ?_
      · intros; split <;> rfl
      · intros; split <;> rfl
      · intros; split <;> rfl
      · intro a s' hm r' hr' hid'
        obtain ⟨hm1, hm2⟩ := mem_delete.mp hm
        by_cases hs : r'.id = s
        · exfalso
          obtain ⟨r'', hr'', h1, h2, _⟩ := h.tbl a s' hm1
          have e1 := h.uniq r'' hr'' r hmem (by omega)
          simp at hm2; omega
        · simp [hs]
    · exact h

theorem Inv.streamDatagram {st : St} (h : Inv st) (s : Nat) (pl : Bytes) (f : Bool) : Inv (streamDatagram st s pl f) := by
  unfold Route.streamDatagram
  cases hr : rec? st s with
  | none => exact h
  | some r =>
    obtain ⟨hmem, hid⟩ := rec_some hr
    simp only
    split
    · split
      · exact h.retExit s
      · refine { h with dl := fun s' a pl' hm => ?_ }
        rcases List.mem_append.1 hm with hm | hm
        · exact h.dl s' a pl' hm
        · cases List.mem_singleton.1 hm; exact ⟨r, hmem, hid, rfl⟩
    · exact h

theorem Inv.writeTo {st : St} (h : Inv st) (a s : Nat) (pl : Bytes)
    (hsa : ∀ r ∈ st.streams, r.id = s → r.addr = a) : Inv (writeTo st a s pl) := by
  unfold Route.writeTo
  cases hr : rec? st s with
  | none => exact h
  | some r =>
    obtain ⟨hmem, hid⟩ := rec_some hr
    simp only
    split
    · exact (h.dropEntry a).closeStream s
    · refine { h with wr := fun a' s' pl' hm => ?_ }
      rcases List.mem_append.1 hm with hm | hm
      · exact h.wr a' s' pl' hm
      · cases List.mem_singleton.1 hm; exact ⟨r, hmem, hid, hsa r hmem hid⟩

/-- the table miss with a healthy session: the new stream, its table entry, its goroutine -/
theorem Inv.openStream {st : St} (h : Inv st) (a k sid : Nat) (hk : k < st.nextSess)
    (hmiss : ∀ s, (a, s) ∉ st.table) (hfresh : st.single = true → ∀ r ∈ st.streams, r.sess ≠ k) :
    Inv { st with streams := st.streams ++ [{ id := st.nextId, sess := k, sid, addr := a, closed := false, live := true }],
                  nextId := st.nextId + 1, table := (a, st.nextId) :: st.table } := by
  constructor
  · intro a' s hm
    simp at hm
    rcases hm with ⟨ha, hs⟩ | hm
    · subst ha; subst hs
      exact ⟨⟨st.nextId, k, sid, a', false, true⟩, by simp, rfl, rfl, rfl⟩
    · obtain ⟨r, hr, h1⟩ := h.tbl a' s hm
      exact ⟨r, by simp [hr], h1⟩
  · intro a' s1 s2 h1 h2
    simp at h1 h2
    rcases h1 with ⟨ha1, hs1⟩ | h1 <;> rcases h2 with ⟨ha2, hs2⟩ | h2
    · omega
    · subst ha1; exact absurd h2 (hmiss _)
    · subst ha2; exact absurd h1 (hmiss _)
    · exact h.keys a' s1 s2 h1 h2
  · intro r hr
    simp at hr ⊢
    rcases hr with hr | rfl
    · have := h.ids r hr; omega
    · simp
  · intro r1 h1 r2 h2 he
    simp at h1 h2
    rcases h1 with h1 | rfl <;> rcases h2 with h2 | rfl
    · exact h.uniq r1 h1 r2 h2 he
    · have := h.ids r1 h1; simp at he; omega
    · have := h.ids r2 h2; simp at he; omega
    · rfl
  · intro a' s pl hm
    obtain ⟨r, hr, h1⟩ := h.wr a' s pl hm
    exact ⟨r, by simp [hr], h1⟩
  · intro s a' pl hm
    obtain ⟨r, hr, h1⟩ := h.dl s a' pl hm
    exact ⟨r, by simp [hr], h1⟩
  · intro r hr
    simp at hr
    rcases hr with hr | rfl
    · exact h.sessLt r hr
    · exact hk
  · exact h.curLt
  · intro hs r1 h1 r2 h2 he
    simp at h1 h2
    rcases h1 with h1 | rfl <;> rcases h2 with h2 | rfl
    · exact h.sp hs r1 h1 r2 h2 he
    · exact absurd he (hfresh hs r1 h1)
    · exact absurd he.symm (hfresh hs r2 h2)
    · rfl

theorem Inv.localDatagram {st : St} (h : Inv st) (a : Nat) (pl : Bytes) (b : Bool) : Inv (localDatagram st a pl b) := by
  unfold Route.localDatagram
  -- the reuse test
  generalize hst1 : (if Gen.Route.routeUDPReuse st.single st.cur.isNone (seshClosed st) then Route.newSession st b else st) = st1
  have h1 : Inv st1 := by subst hst1; split; exact h.newSession b; exact h
  simp only
  cases hl : lookup st1.table a with
  | some s =>
    simp only
    have hm := lookup_some hl
    obtain ⟨r, hr, e1, e2, _⟩ := h1.tbl a s hm
    exact h1.writeTo a s pl (fun r' hr' hid' => by rw [h1.uniq r' hr' r hr (by omega)]; exact e2)
  | none =>
    simp only
    have hmiss := lookup_none hl
    generalize hst2 : (if st1.single = true then Route.newSession st1 b else st1) = st2
    have h2 : Inv st2 := by subst hst2; split; exact h1.newSession b; exact h1
    have htab : st2.table = st1.table := by subst hst2; split <;> rfl
    have hfresh : st2.single = true → ∀ k, st2.cur = some k → ∀ r ∈ st2.streams, r.sess ≠ k := by
      subst hst2
      intro hs k hk r hr
      split at hs
      · rename_i hsin
        simp [hsin, Route.newSession] at hk hr ⊢
        have := h1.sessLt r hr; omega
      · rename_i hsin; exact absurd hs hsin
    cases hc : st2.cur with
    | none => exact h2
    | some k =>
      simp only
      split
      · split
        · exact h2.closeSession k
        · exact h2
      · have ho := h2.openStream a k (1 + (st2.streams.filter (·.sess == k)).length) (h2.curLt k hc)
          (by rw [htab]; exact hmiss) (fun hs => hfresh hs k hc)
        rw [← hc]
        exact ho.writeTo a st2.nextId pl (by
          intro r hr hid
          simp at hr
          rcases hr with hr | rfl
          · have := h2.ids r hr; omega
          · rfl)

theorem inv_step {st : St} (h : Inv st) (ev : Ev) : Inv (step st ev) := by
  cases ev with
  | localDatagram a pl b => exact h.localDatagram a pl b
  | streamDatagram s pl f => exact h.streamDatagram s pl f
  | retExit s => exact h.retExit s
  | sessionClosed k => simp only [step]; split; exact h.closeSession k; exact h

theorem inv_run {st : St} (h : Inv st) (evs : List Ev) : Inv (run st evs) :=
  List.foldlRecOn evs _ h (fun _ h e _ => inv_step h e)

/-! ## headline theorems: for every event history from the initial state -/

/-- (a) ISOLATION, way in: two datagrams written to the same stream came from the same local address — a stream never
serves two addresses -/
theorem c14r_isolation_in (single : Bool) (max : Nat) (evs : List Ev) :
    let st := run (St.init single max) evs
    ∀ a1 a2 s p1 p2, (a1, s, p1) ∈ st.writes → (a2, s, p2) ∈ st.writes → a1 = a2 := by
  intro st a1 a2 s p1 p2 h1 h2
  have h := inv_run (inv_init single max) evs
  obtain ⟨r1, m1, i1, e1⟩ := h.wr a1 s p1 h1
  obtain ⟨r2, m2, i2, e2⟩ := h.wr a2 s p2 h2
  have := h.uniq r1 m1 r2 m2 (by omega)
  omega

/-- (a) ISOLATION, way back: every datagram delivered locally from stream s went to the address whose datagrams are
written to s (and so all deliveries of s go to one address) -/
theorem c14r_isolation_back (single : Bool) (max : Nat) (evs : List Ev) :
    let st := run (St.init single max) evs
    (∀ a s p a' p', (s, a, p) ∈ st.delivs → (a', s, p') ∈ st.writes → a = a') ∧
    (∀ a s p a' p', (s, a, p) ∈ st.delivs → (s, a', p') ∈ st.delivs → a = a') := by
  intro st
  have h := inv_run (inv_init single max) evs
  constructor
  · intro a s p a' p' h1 h2
    obtain ⟨r1, m1, i1, e1⟩ := h.dl s a p h1
    obtain ⟨r2, m2, i2, e2⟩ := h.wr a' s p' h2
    have := h.uniq r1 m1 r2 m2 (by omega)
    omega
  · intro a s p a' p' h1 h2
    obtain ⟨r1, m1, i1, e1⟩ := h.dl s a p h1
    obtain ⟨r2, m2, i2, e2⟩ := h.dl s a' p' h2
    have := h.uniq r1 m1 r2 m2 (by omega)
    omega

/-- (c) the table invariant that is TRUE: an entry names a stream opened for that address whose return goroutine is
live; one entry per address -/
theorem c14r_table_sound (single : Bool) (max : Nat) (evs : List Ev) :
    let st := run (St.init single max) evs
    (∀ a s, (a, s) ∈ st.table → ∃ r ∈ st.streams, r.id = s ∧ r.addr = a ∧ r.live = true) ∧
    (∀ a s1 s2, (a, s1) ∈ st.table → (a, s2) ∈ st.table → s1 = s2) := by
  intro st
  have h := inv_run (inv_init single max) evs
  exact ⟨h.tbl, h.keys⟩

/-! `single` is a constant of the run -/

theorem writeTo_single (st : St) (a s : Nat) (pl : Bytes) : (writeTo st a s pl).single = st.single := by
  unfold Route.writeTo; split; rfl; split <;> rfl

theorem retExit_single (st : St) (s : Nat) : (retExit st s).single = st.single := by
  unfold Route.retExit; split; rfl; split <;> rfl

theorem localDatagram_single (st : St) (a : Nat) (pl : Bytes) (b : Bool) :
    (localDatagram st a pl b).single = st.single := by
  have hnew : ∀ (c : Prop) [Decidable c] (x : St), (if c then Route.newSession x b else x).single = x.single := by
    intro c _ x; split <;> rfl
  unfold Route.localDatagram
  generalize hst1 : (if Gen.Route.routeUDPReuse st.single st.cur.isNone (seshClosed st) then Route.newSession st b else st) = st1
  have h1 : st1.single = st.single := by subst hst1; exact hnew _ st
  simp only
  split
  · rw [writeTo_single, h1]
  · generalize hst2 : (if st1.single = true then Route.newSession st1 b else st1) = st2
    have h2 : st2.single = st.single := by subst hst2; rw [hnew _ st1, h1]
    split
    · exact h2
    · split
      · split
        · exact h2
        · exact h2
      · rw [writeTo_single]; exact h2

theorem step_single (st : St) (ev : Ev) : (step st ev).single = st.single := by
  cases ev with
  | localDatagram a pl b => exact localDatagram_single st a pl b
  | streamDatagram s pl f =>
    simp only [step, Route.streamDatagram]
    split; rfl; split; split; exact retExit_single st s; rfl; rfl
  | retExit s => exact retExit_single st s
  | sessionClosed k => simp only [step]; split <;> rfl

theorem run_single (st : St) (evs : List Ev) : (run st evs).single = st.single :=
  List.foldlRecOn (motive := fun s => s.single = st.single) evs _ rfl (fun s h e _ => (step_single s e).trans h)

/-- (d) singleplex: no two streams share a session -/
theorem c14r_singleplex (max : Nat) (evs : List Ev) :
    let st := run (St.init true max) evs
    ∀ r1 ∈ st.streams, ∀ r2 ∈ st.streams, r1.sess = r2.sess → r1.id = r2.id :=
  (inv_run (inv_init true max) evs).sp (run_single _ evs)

/-- (c) the converse of the table invariant, the full statement one would like: every live, open stream is still in
the table (so its address keeps using it and nothing leaks until the deadline) -/
def c14r_table_complete_full : Prop :=
  ∀ (single : Bool) (max : Nat) (evs : List Ev),
    let st := run (St.init single max) evs
    ∀ r ∈ st.streams, r.live = true → r.closed = false → (r.addr, r.id) ∈ st.table

/-- the stolen delete: address 7's first datagram is too large, so its stream 0 is dropped from the table and closed
(write-error path) while goroutine 0 is still on its way out; the next datagram of 7 opens stream 1; then goroutine 0
runs its `delete(streams, addr.String())` — and removes the entry of stream 1.  Stream 1 stays open with a live
goroutine (bound to 7, so still isolated), but address 7's next datagram opens stream 2. -/
def stolen : List Ev := [.localDatagram 7 [1, 2, 3] false, .localDatagram 7 [1] false, .retExit 0]

theorem c14r_table_complete_witness : ¬ c14r_table_complete_full := by
  intro h
  have := h false 2 stolen ⟨1, 0, 2, 7, false, true⟩ (by decide) rfl rfl
  exact absurd this (by decide)

/-- …and what happens next: the orphan keeps its address (isolation is untouched), the address gets a second stream -/
example : ((run (St.init false 2) (stolen ++ [.localDatagram 7 [9] false, .streamDatagram 1 [5] false])).writes,
           (run (St.init false 2) (stolen ++ [.localDatagram 7 [9] false, .streamDatagram 1 [5] false])).delivs)
          = ([(7, 1, [1]), (7, 2, [9])], [(1, 7, [5])]) := by decide

/-- non-vacuity: a history with three addresses, a session kill, a goroutine exit and replies, in which the theorems
speak about non-empty tables, writes and deliveries -/
def demo : List Ev :=
  [.localDatagram 1 [1] false, .localDatagram 2 [2] false, .streamDatagram 0 [8] false, .localDatagram 1 [3] false,
   .sessionClosed 0, .retExit 0, .localDatagram 1 [4] false, .localDatagram 3 [5] true, .streamDatagram 2 [9] false]

example : (run (St.init false 100) demo).writes = [(1, 0, [1]), (2, 1, [2]), (1, 0, [3]), (1, 2, [4]), (3, 3, [5])] ∧
          (run (St.init false 100) demo).delivs = [(0, 1, [8]), (2, 1, [9])] ∧
          (run (St.init false 100) demo).table = [(3, 3), (1, 2), (2, 1)] := by decide

/-- an OpenStream failure: the session handed out is already closed; the datagram is dropped, nothing enters the table -/
example : (run (St.init true 100) [.localDatagram 1 [1] true]).writes = [] ∧
          (run (St.init true 100) [.localDatagram 1 [1] true]).table = [] ∧
          (run (St.init true 100) [.localDatagram 1 [1] true]).deadSess = [0, 0] := by decide

example : ((run (St.init true 100) demo).streams.map (·.sess)) = [0, 1, 2] := by decide

end C14R

#print axioms C14R.c14r_isolation_in
#print axioms C14R.c14r_isolation_back
#print axioms C14R.c14r_table_sound
#print axioms C14R.c14r_singleplex
#print axioms C14R.c14r_table_complete_witness
