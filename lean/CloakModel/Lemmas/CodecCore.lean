import CloakModel.Model.Codec
import CloakModel.Lemmas.Bytes
import CloakModel.Lemmas.GenBridge

/-! Lemmas about the frame codec model.  The extracted terms are bridged to literal numbers (`gen_*`); every
stage of the model gets its own equation (`header_nf`, `obfBuf_nf`, `obfQuery_nf`, `obfFinish_eq`, `deobfPre_eq`,
`deobfFinish_eq`); `obf_nf` and `deobf_nf` put them together: `obfuscate` answers with `honestMsg`, `deobfuscate`
is `decodeParts` of the unmasked header and the body.  Whether the method is plain or an AEAD is looked at in
`tagNF_bounds`, `honestBody_length` and `openBody_honestBody`, and where the model itself branches. -/
set_option linter.unusedVariables false

namespace Codec
open Gen.Codec

/-! ## bytes -/

theorem beNat_beBytes : ∀ w x, x < 256^w → beNat (beBytes w x) = x := beNat_beBytes_lt

theorem putAt_append_left (a b v : Bytes) (lo : Nat) (h : lo + v.length ≤ a.length) :
    putAt (a ++ b) lo v = putAt a lo v ++ b := by
  unfold putAt
  rw [List.take_append_of_le_length (by omega), List.drop_append_of_le_length h]
  simp

/-- overwrite right after a prefix `a`: the next `v.length` bytes of the tail are replaced -/
theorem putAt_after (a b v : Bytes) (lo : Nat) (hlo : lo = a.length) (h : v.length ≤ b.length) :
    putAt (a ++ b) lo v = a ++ v ++ b.drop v.length := by
  subst hlo
  unfold putAt
  rw [List.take_left' rfl, List.drop_append]
  simp [List.drop_eq_nil_of_le]

/-- a store into a zeroed buffer, right after what has been stored so far (`a`) -/
theorem putAt_fill (a v : Bytes) (lo n : Nat) (hlo : lo = a.length) (h : v.length ≤ n) :
    putAt (a ++ List.replicate n 0) lo v = (a ++ v) ++ List.replicate (n - v.length) 0 := by
  rw [putAt_after a _ v lo hlo (by simpa using h), List.drop_replicate]

theorem gslice_nat (b : Bytes) (lo hi : Int) (l h : Nat) (hl : lo = l) (hh : hi = h) (h1 : l ≤ h) (h2 : h ≤ b.length) :
    gslice b lo hi = some ((b.drop l).take (h - l)) := by
  subst hl hh
  have e : ((h : Int) - (l : Int)).toNat = h - l := by omega
  unfold gslice
  rw [if_pos (by omega)]
  simp [e]

/-- Go `b[:h]` -/
theorem gslice_take (b : Bytes) (hi : Int) (h : Nat) (hh : hi = h) (h2 : h ≤ b.length) : gslice b 0 hi = some (b.take h) :=
  gslice_nat b 0 hi 0 h rfl hh (Nat.zero_le _) h2

/-- Go `b[l:]` -/
theorem gslice_drop (b : Bytes) (lo hi : Int) (l : Nat) (hl : lo = l) (hh : hi = b.length) (h1 : l ≤ b.length) :
    gslice b lo hi = some (b.drop l) := by
  rw [gslice_nat b lo hi l b.length hl hh h1 (Nat.le_refl _), List.take_of_length_le (by simp)]

theorem gslice_none (b : Bytes) (lo hi : Int) (h : ¬ (0 ≤ lo ∧ lo ≤ hi ∧ hi ≤ (b.length : Int))) : gslice b lo hi = none := by
  unfold gslice; rw [if_neg h]

theorem gidx_nat (b : Bytes) (i : Int) (n : Nat) (h : i = n) (hn : n < b.length) : gidx b i = some (b.getD n 0) := by
  subst h; unfold gidx; rw [if_pos (by omega)]; simp [List.getD_eq_getElem?_getD, hn]

theorem xor_length (a b : Bytes) (h : a.length = b.length) : (xor a b).length = a.length := by
  simp [xor, h]

theorem xor_xor : ∀ (a b : Bytes), a.length = b.length → xor (xor a b) b = a := by
  intro a
  induction a with
  | nil => intro b _; simp [xor]
  | cons x xs ih =>
    intro b hb
    cases b with
    | nil => simp at hb
    | cons y ys =>
      simp only [xor, List.zipWith_cons_cons, List.cons.injEq]
      constructor
      · rw [UInt8.xor_assoc, UInt8.xor_self, UInt8.xor_zero]
      · exact ih ys (by simpa using hb)

theorem xor_take (a b : Bytes) (k : Nat) : (xor a b).take k = xor (a.take k) (b.take k) := by
  simp [xor, List.take_zipWith]

/-! ## the extracted terms -/

theorem gen_hdr_offsets : headerHi = 14 ∧ hdrSidLo = 0 ∧ hdrSidHi = 4 ∧ hdrSeqLo = 4 ∧ hdrSeqHi = 12 ∧ hdrClosingIdx = 12 ∧ hdrExtraIdx = 13 := by
  and_intros <;> rfl
theorem gen_obf_consts : payloadLo = 14 ∧ tagLenPlain = 8 ∧ salsa20NonceSize = 8 ∧ frameHeaderLength = 14 ∧ maxExtraLen = 255 := by
  and_intros <;> rfl
theorem gen_useful (p d t : Nat) : usefulLen p d t = ((14 + p + d + t : Nat) : Int) := by unfold usefulLen; omega
theorem gen_payloadHi (p d : Nat) : payloadHi p d = ((14 + p + d : Nat) : Int) := by unfold payloadHi; omega
theorem gen_randLo (p : Nat) : randLo p = ((14 + p : Nat) : Int) := by unfold randLo; omega
theorem gen_extraByte (d t : Nat) : extraByte d t = ((d + t : Nat) : Int) := by unfold extraByte; omega
theorem gen_salsaNonce (u : Nat) (h : 8 ≤ u) : salsaNonceLo u = ((u - 8 : Nat) : Int) ∧ salsaNonceHi u = (u : Int) := by
  unfold salsaNonceLo salsaNonceHi; omega
theorem gen_sealNonce (ns : Nat) : sealNonceLo = 0 ∧ sealNonceHi ns = (ns : Int) := by
  unfold sealNonceLo sealNonceHi; omega
theorem gen_emptyPayload (p : Nat) : emptyPayload p = decide (p = 0) := by
  unfold emptyPayload; rw [Bool.eq_iff_iff]; gen_bool
theorem gen_padGuard (s : Nat) : padGuard s = decide (s < 5) := by
  unfold padGuard; rw [Bool.eq_iff_iff]; gen_bool
theorem gen_bufTooSmall (b u : Nat) : bufTooSmall b u = decide (b < u) := by
  unfold bufTooSmall; rw [Bool.eq_iff_iff]; gen_bool
theorem gen_nonceTooLong (ns : Nat) : nonceTooLong ns = decide (14 < ns) := by
  unfold nonceTooLong; rw [Bool.eq_iff_iff]; gen_bool
theorem gen_deobf_consts : deobfHeaderHi = 14 ∧ deobfPldLo = 14 ∧ deobfSidLo = 0 ∧ deobfSidHi = 4 ∧ deobfSeqLo = 4 ∧
    deobfSeqHi = 12 ∧ deobfClosingIdx = 12 ∧ deobfExtraIdx = 13 ∧ openNonceLo = 0 := by
  and_intros <;> rfl
theorem gen_deobfTooShort (n : Nat) : deobfTooShort n = decide (n < 22) := by
  unfold deobfTooShort; rw [Bool.eq_iff_iff]; gen_bool
theorem gen_deobfSalsaNonceLo (n : Nat) (h : 8 ≤ n) : deobfSalsaNonceLo n = ((n - 8 : Nat) : Int) := by
  unfold deobfSalsaNonceLo; omega
theorem gen_deobfUseful (p e : Nat) : deobfUseful p e = (p : Int) - (e : Int) := by
  unfold deobfUseful; omega
theorem gen_deobfExtraBad (p e : Nat) : deobfExtraBad ((p : Int) - (e : Int)) p = decide (p < e) := by
  unfold deobfExtraBad; rw [Bool.eq_iff_iff]; gen_bool
theorem gen_openNonceHi (ns : Nat) : openNonceHi ns = (ns : Int) := by unfold openNonceHi; omega
theorem gen_plainWhole (e : Nat) : plainWholeCond e = decide (e = 0) := by
  unfold plainWholeCond; rw [Bool.eq_iff_iff]; gen_bool
theorem gen_outHi (u : Int) : plainOutHi u = u ∧ aeadOutHi u = u := by
  unfold plainOutHi aeadOutHi; omega

/-! ## the header -/

def hdrNF (f : Frame) (e : Nat) : Bytes := beBytes 4 f.sid ++ beBytes 8 f.seq ++ [f.closing, UInt8.ofNat e]

theorem hdrNF_length (f : Frame) (e : Nat) : (hdrNF f e).length = 14 := by
  simp [hdrNF, beBytes_length]

theorem header_nf (f : Frame) (e : Int) : header f e = hdrNF f e.toNat := by
  have l4 := beBytes_length 4 f.sid
  have l8 := beBytes_length 8 f.seq
  obtain ⟨h1, h2, _, h4, _, h6, h7⟩ := gen_hdr_offsets
  unfold header hdrNF
  dsimp only
  rw [h1, h2, h4, h6, h7, show (14 : Int).toNat = 14 from rfl, show (0 : Int).toNat = 0 from rfl,
    show (4 : Int).toNat = 4 from rfl, show (12 : Int).toNat = 12 from rfl, show (13 : Int).toNat = 13 from rfl]
  rw [← List.nil_append (List.replicate 14 0), putAt_fill [] _ 0 14 rfl (by omega),
    putAt_fill _ _ 4 _ (by simp [l4]) (by omega), putAt_fill _ _ 12 _ (by simp [l4, l8]) (by simp [l4, l8]),
    putAt_fill _ _ 13 _ (by simp [l4, l8]) (by simp [l4, l8])]
  simp [l4, l8]

/-- the frame a plain header and a payload stand for -/
def frameNF (H pl : Bytes) : Frame := ⟨beNat (H.take 4), beNat ((H.drop 4).take 8), H.getD 12 0, pl⟩

theorem hdrNF_13 (f : Frame) (e : Nat) : (hdrNF f e).getD 13 0 = UInt8.ofNat e := by
  have l4 := beBytes_length 4 f.sid
  have l8 := beBytes_length 8 f.seq
  simp [hdrNF, List.getD_eq_getElem?_getD, l4, l8]

theorem hdrNF_take12 (f : Frame) (e : Nat) : (hdrNF f e).take 12 = beBytes 4 f.sid ++ beBytes 8 f.seq := by
  unfold hdrNF
  exact List.take_left' (by simp [beBytes_length])

theorem frameNF_hdrNF (f : Frame) (e : Nat) (pl : Bytes) (hsid : f.sid < 2^32) (hseq : f.seq < 2^64) :
    frameNF (hdrNF f e) pl = { f with payload := pl } := by
  have l4 := beBytes_length 4 f.sid
  have l8 := beBytes_length 8 f.seq
  unfold frameNF hdrNF
  have h1 : (beBytes 4 f.sid ++ beBytes 8 f.seq ++ [f.closing, UInt8.ofNat e]).take 4 = beBytes 4 f.sid := by
    rw [List.append_assoc]; exact List.take_left' l4
  have h2 : ((beBytes 4 f.sid ++ beBytes 8 f.seq ++ [f.closing, UInt8.ofNat e]).drop 4).take 8 = beBytes 8 f.seq := by
    rw [List.append_assoc, List.drop_left' l4]; exact List.take_left' l8
  rw [h1, h2, beNat_beBytes 4 _ (by simpa using hsid), beNat_beBytes 8 _ (by simpa using hseq)]
  simp [List.getD_eq_getElem?_getD, l4, l8]

/-! ## the Salsa20 mask -/

/-- the first 14 bytes of `b` XORed with the key stream whose nonce is the last 8 bytes of `b`: what `obfuscate`
puts in front of a buffer whose header is plain, and the plain header `deobfuscate` reads from a message -/
def xhdr (C : Crypto) (key b : Bytes) : Bytes := xor (b.take 14) (C.stream key (b.drop (b.length - 8)) 14)

theorem mask_length (C : Crypto) (hs : ∀ k n l, (C.stream k n l).length = l) (key H n : Bytes) (hH : H.length = 14) :
    (xor H (C.stream key n 14)).length = 14 := by
  rw [xor_length _ _ (by rw [hH, hs]), hH]

theorem xhdr_length (C : Crypto) (hs : ∀ k n l, (C.stream k n l).length = l) (key b : Bytes) (hb : 14 ≤ b.length) :
    (xhdr C key b).length = 14 :=
  mask_length C hs key _ _ (by simp; omega)

/-- the one place where a buffer is cut into header and body -/
theorem xhdr_append (C : Crypto) (key H B : Bytes) (hH : H.length = 14) (hB : 8 ≤ B.length) :
    xhdr C key (H ++ B) = xor H (C.stream key (B.drop (B.length - 8)) 14) := by
  have e : (H ++ B).drop ((H ++ B).length - 8) = B.drop (B.length - 8) := by
    rw [List.length_append, hH, List.drop_append, List.drop_eq_nil_of_le (by omega), hH, List.nil_append]
    congr 1; omega
  unfold xhdr
  rw [List.take_left' hH, e]

/-- masking twice with the same nonce gives the header back -/
theorem xhdr_xhdr (C : Crypto) (hs : ∀ k n l, (C.stream k n l).length = l) (key H B : Bytes) (hH : H.length = 14)
    (hB : 8 ≤ B.length) : xhdr C key (xhdr C key (H ++ B) ++ B) = H := by
  rw [xhdr_append C key _ B (xhdr_length C hs key _ (by simp; omega)) hB, xhdr_append C key H B hH hB,
    xor_xor H _ (by rw [hH, hs])]

/-! ## `obfuscate` -/

def tagNF (C : Crypto) : Nat :=
  match C.aead with
  | some a => a.overhead
  | none => 8

theorem tagLenOf_nf (C : Crypto) : tagLenOf C = tagNF C := by
  unfold tagLenOf tagNF; rw [gen_obf_consts.2.1]; rfl

theorem tagNF_bounds (C : Crypto) (hL : Lawful C) : 8 ≤ tagNF C ∧ tagNF C ≤ 255 := by
  unfold tagNF
  cases hc : C.aead with
  | none => simp
  | some a =>
    have h1 := hL.tag_ge a hc
    have h2 := hL.tag_le a hc
    rw [gen_obf_consts.2.2.1] at h1
    rw [gen_obf_consts.2.2.2.2] at h2
    simp only; omega

theorem nonce_le (C : Crypto) (hn : ∀ a : Aead, C.aead = some a → nonceTooLong a.nonceSize = false) (a : Aead)
    (hc : C.aead = some a) : a.nonceSize ≤ 14 := by
  have := hn a hc
  rw [gen_nonceTooLong] at this; simpa using this

theorem obfBuf_nf (f : Frame) (pad tag : Nat) (rnd : Bytes) (hr : rnd.length = pad + tag) :
    obfBuf f pad tag rnd = hdrNF f (pad + tag) ++ (f.payload ++ rnd) := by
  unfold obfBuf
  rw [gen_useful, gen_extraByte, gen_randLo, header_nf, gen_obf_consts.1]
  simp only [Int.toNat_natCast, show (14:Int).toNat = 14 from rfl]
  have hl := hdrNF_length f (pad + tag)
  generalize hdrNF f (pad + tag) = H at *
  rw [← List.nil_append (List.replicate _ 0), putAt_fill [] H 0 _ rfl (by omega),
    putAt_fill _ f.payload 14 _ (by simp [hl]) (by omega),
    putAt_fill _ rnd _ _ (by simp [hl]) (by omega)]
  simp [hl, hr, show 14 + f.payload.length + pad + tag - 14 - f.payload.length - (pad + tag) = 0 by omega]

theorem obfQuery_nf (a : Aead) (H P R : Bytes) (hH : H.length = 14) (hn : a.nonceSize ≤ 14) (pad : Nat) (hp : pad ≤ R.length) :
    obfQuery a (H ++ (P ++ R)) P.length pad = some (H.take a.nonceSize, P ++ R.take pad) := by
  unfold obfQuery
  rw [gslice_take _ headerHi 14 rfl (by simp; omega), List.take_left' hH]
  dsimp only
  rw [(gen_sealNonce a.nonceSize).1, gslice_take H _ a.nonceSize (gen_sealNonce _).2 (by omega),
    gslice_nat _ _ _ 14 (14 + P.length + pad) gen_obf_consts.1 (gen_payloadHi _ _) (by omega) (by simp; omega),
    List.drop_left' hH, show 14 + P.length + pad - 14 = P.length + pad by omega, List.take_length_add_append]

/-- the last step of `obfuscate` on a buffer of exactly `u` bytes with a plain header: mask the header -/
theorem obfFinish_eq (C : Crypto) (hs : ∀ k n l, (C.stream k n l).length = l) (key buf : Bytes) (u : Int)
    (hu : u = buf.length) (hb : 22 ≤ buf.length) :
    obfFinish C key buf u none = .ok (xhdr C key buf ++ buf.drop 14) := by
  have hx := xhdr_length C hs key buf (by omega)
  have hn := gen_salsaNonce buf.length (by omega)
  unfold obfFinish
  dsimp only
  rw [gslice_take buf headerHi 14 rfl (by omega), hu, gslice_drop buf _ _ (buf.length - 8) hn.1 hn.2 (by omega)]
  dsimp only
  rw [show (buf.take 14).length = 14 by simp; omega]
  change (match gslice (putAt buf 0 (xhdr C key buf)) 0 (buf.length : Int) with | some m => OOut.ok m | none => .panic) = _
  have hp : putAt buf 0 (xhdr C key buf) = xhdr C key buf ++ buf.drop 14 := by
    unfold putAt; simp [hx]
  rw [hp, gslice_take _ _ buf.length rfl (by simp [hx]; omega), List.take_of_length_le (by simp [hx]; omega)]

/-- the same on a buffer given as plain header and body -/
theorem obfFinish_parts (C : Crypto) (hs : ∀ k n l, (C.stream k n l).length = l) (key H X : Bytes) (hH : H.length = 14)
    (hX : 8 ≤ X.length) (u : Int) (hu : u = ((14 + X.length : Nat) : Int)) :
    obfFinish C key (H ++ X) u none = .ok (xor H (C.stream key (X.drop (X.length - 8)) 14) ++ X) := by
  rw [obfFinish_eq C hs key _ _ (by simp [hH, hu]) (by simp [hH]; omega), xhdr_append C key H X hH hX, List.drop_left' hH]

/-- body of an honest v2 message with plain header `H`, padding `pad`, and (plain method) 8-byte tail -/
def honestBody (C : Crypto) (key H : Bytes) (f : Frame) (pad tail : Bytes) : Bytes :=
  match C.aead with
  | none => f.payload ++ pad ++ tail
  | some a => a.aseal key (H.take a.nonceSize) (f.payload ++ pad) []

def honestMsg (C : Crypto) (key : Bytes) (f : Frame) (pad tail : Bytes) : Bytes :=
  let H := hdrNF f (pad.length + tagNF C)
  let body := honestBody C key H f pad tail
  xor H (C.stream key (body.drop (body.length - 8)) 14) ++ body

theorem honestBody_length (C : Crypto) (hL : Lawful C) (key H : Bytes) (f : Frame) (pad tail : Bytes)
    (htail : C.aead = none → tail.length = 8) :
    (honestBody C key H f pad tail).length = f.payload.length + pad.length + tagNF C := by
  unfold honestBody tagNF
  cases hc : C.aead with
  | none => simp [htail hc, Nat.add_assoc]
  | some a => simp [hL.seal_len a hc]

theorem honestMsg_length (C : Crypto) (hL : Lawful C) (key : Bytes) (f : Frame) (pad tail : Bytes)
    (htail : C.aead = none → tail.length = 8) :
    (honestMsg C key f pad tail).length = 14 + f.payload.length + pad.length + tagNF C := by
  unfold honestMsg
  dsimp only
  rw [List.length_append, mask_length C hL.stream_len key _ _ (hdrNF_length _ _), honestBody_length C hL _ _ _ _ _ htail]
  omega

/-- the random bytes `obfuscate` is given are the padding followed by (plain method) the 8-byte tail -/
theorem rnd_parts (C : Crypto) (rnd : Bytes) (pad : Nat) (hr : rnd.length = pad + tagNF C) :
    (rnd.take pad).length = pad ∧ (C.aead = none → (rnd.drop pad).length = 8) := by
  refine ⟨by simp; omega, fun hc => ?_⟩
  have : tagNF C = 8 := by unfold tagNF; rw [hc]
  simp; omega

/-- **`obfuscate`, all stages together.**  With as many random bytes as padding and tag need, `obfuscate` refuses an
empty payload and a short buffer and otherwise returns the honest message whose padding is `rnd[:pad]` and
whose tail (plain method) is `rnd[pad:]`. -/
theorem obf_nf (C : Crypto) (hL : Lawful C) (key : Bytes) (f : Frame) (bufLen padDraw : Nat) (rnd : Bytes)
    (hr : rnd.length = padLenOf f padDraw + tagNF C) :
    obfuscate C key f bufLen padDraw rnd =
      if f.payload.length = 0 then .errEmpty
      else if bufLen < 14 + f.payload.length + padLenOf f padDraw + tagNF C then .errSmall
      else .ok (honestMsg C key f (rnd.take (padLenOf f padDraw)) (rnd.drop (padLenOf f padDraw))) := by
  unfold obfuscate obfPre
  dsimp only
  rw [gen_emptyPayload, tagLenOf_nf, gen_useful, gen_bufTooSmall]
  generalize padLenOf f padDraw = pad at *
  by_cases h0 : f.payload.length = 0
  · rw [if_pos (decide_eq_true h0), if_pos h0]
  rw [if_neg (by simpa using h0), if_neg h0]
  by_cases h1 : bufLen < 14 + f.payload.length + pad + tagNF C
  · rw [if_pos (decide_eq_true h1), if_pos h1]
  rw [if_neg (by simpa using h1), if_neg h1]
  dsimp only
  have h8 := (tagNF_bounds C hL).1
  obtain ⟨hpt, htl⟩ := rnd_parts C rnd pad hr
  have hH := hdrNF_length f (pad + tagNF C)
  have hbl := honestBody_length C hL key (hdrNF f (pad + tagNF C)) f (rnd.take pad) (rnd.drop pad) htl
  unfold honestMsg
  rw [obfBuf_nf f _ _ rnd hr, hpt] at *
  dsimp only
  generalize hdrNF f (pad + tagNF C) = H at *
  unfold honestBody at hbl ⊢
  cases hc : C.aead with
  | none =>
    rw [hc] at hbl
    dsimp only at hbl ⊢
    rw [List.append_assoc, List.take_append_drop] at hbl ⊢
    exact obfFinish_parts C hL.stream_len key H _ hH (by omega) _ (by rw [hbl]; omega)
  | some a =>
    rw [hc] at hbl
    dsimp only at hbl ⊢
    rw [obfQuery_nf a H f.payload rnd hH (nonce_le C hL.nonce_ok a hc) pad (by omega)]
    dsimp only
    change obfFinish C key (putAt (H ++ (f.payload ++ rnd)) payloadLo.toNat _) _ none = _
    rw [show payloadLo.toNat = 14 from rfl, putAt_after H _ _ _ hH.symm (by rw [hbl]; simp [hr]; omega),
      List.drop_eq_nil_of_le (by rw [hbl]; simp [hr]; omega), List.append_nil]
    exact obfFinish_parts C hL.stream_len key H _ hH (by omega) _ (by rw [hbl]; omega)

/-! ## `deobfuscate` -/

/-- `Open` in place, whatever the method: the buffer afterwards; `none` = authentication failed -/
def openBody (C : Crypto) (key H body : Bytes) : Option Bytes :=
  match C.aead with
  | none => some body
  | some a => (a.aopen key (H.take a.nonceSize) body []).map fun pt => pt ++ body.drop pt.length

/-- what `deobfuscate` does with the plain header `H` and the body of a message -/
def decodeParts (C : Crypto) (key H body : Bytes) : DOut :=
  let extra := (H.getD 13 0).toNat
  if body.length < extra then .errExtra else
  match openBody C key H body with
  | none => .errAuth
  | some b => .ok (frameNF H (b.take (body.length - extra)))

theorem deobfPre_eq (C : Crypto) (hs : ∀ k n l, (C.stream k n l).length = l) (key msg : Bytes) (hlen : 22 ≤ msg.length) :
    deobfPre C key msg =
      let H := xhdr C key msg
      let body := msg.drop 14
      let extra := (H.getD 13 0).toNat
      if body.length < extra then .errExtra
      else .go ⟨H, body, beNat (H.take 4), beNat ((H.drop 4).take 8), H.getD 12 0, H.getD 13 0, ((body.length - extra : Nat) : Int)⟩ := by
  obtain ⟨c1, c2, c3, c4, c5, c6, c7, c8, _⟩ := gen_deobf_consts
  have hx : (xor (msg.take 14) (C.stream key (msg.drop (msg.length - 8)) 14)).length = 14 :=
    xhdr_length C hs key msg (by omega)
  unfold deobfPre xhdr
  rw [gen_deobfTooShort, if_neg (by simp; omega), gslice_take msg _ 14 c1 (by omega),
    gslice_drop msg _ _ 14 c2 rfl (by omega),
    gslice_drop msg _ _ (msg.length - 8) (gen_deobfSalsaNonceLo _ (by omega)) rfl (by omega)]
  dsimp only
  rw [show (msg.take 14).length = 14 by simp; omega]
  generalize xor (msg.take 14) (C.stream key (msg.drop (msg.length - 8)) 14) = H at *
  rw [c3, gslice_take H _ 4 c4 (by omega), gslice_nat H _ _ 4 12 c5 c6 (by omega) (by omega),
    gidx_nat H _ 12 c7 (by omega), gidx_nat H _ 13 c8 (by omega)]
  dsimp only
  rw [gen_deobfUseful, gen_deobfExtraBad]
  by_cases hex : (msg.drop 14).length < (H.getD 13 0).toNat
  · rw [if_pos hex, if_pos (decide_eq_true hex)]
  · have hu : ((msg.drop 14).length : Int) - ((H.getD 13 0).toNat : Int)
        = (((msg.drop 14).length - (H.getD 13 0).toNat : Nat) : Int) := by omega
    rw [if_neg hex, if_neg (by simpa using hex), hu]

theorem deobfFinish_eq (p : DPre) (n : Nat) (hu : p.useful = (n : Int)) (hn : n ≤ p.pld.length)
    (he : p.extra.toNat = 0 → n = p.pld.length) (opened : Option (Option Bytes)) :
    deobfFinish p opened =
      match opened with
      | none => .ok ⟨p.sid, p.seq, p.closing, p.pld.take n⟩
      | some none => .errAuth
      | some (some pt) => .ok ⟨p.sid, p.seq, p.closing, (pt ++ p.pld.drop pt.length).take n⟩ := by
  unfold deobfFinish
  rw [gen_plainWhole, (gen_outHi _).1, (gen_outHi _).2, hu]
  cases opened with
  | none =>
    dsimp only
    rw [gslice_take _ _ n rfl hn]
    by_cases hz : p.extra.toNat = 0
    · simp [hz, he hz]
    · simp [hz]
  | some o =>
    cases o with
    | none => rfl
    | some pt =>
      dsimp only
      rw [gslice_take _ _ n rfl (by simp; omega)]

/-- **`deobfuscate`, all stages together**: a length check, then `decodeParts` of the unmasked header and the body;
no slice or index of the source can fail -/
theorem deobf_nf (C : Crypto) (hs : ∀ k n l, (C.stream k n l).length = l)
    (hn : ∀ a : Aead, C.aead = some a → nonceTooLong a.nonceSize = false) (key msg : Bytes) :
    deobfuscate C key msg =
      if msg.length < 22 then .errShort else decodeParts C key (xhdr C key msg) (msg.drop 14) := by
  unfold deobfuscate
  by_cases hlen : msg.length < 22
  · unfold deobfPre; rw [gen_deobfTooShort]; simp [hlen]
  rw [if_neg hlen, deobfPre_eq C hs key msg (by omega)]
  have hx := xhdr_length C hs key msg (by omega)
  unfold decodeParts openBody
  dsimp only
  generalize xhdr C key msg = H at *
  by_cases hex : (msg.drop 14).length < (H.getD 13 0).toNat
  · rw [if_pos hex, if_pos hex]
  rw [if_neg hex, if_neg hex]
  dsimp only
  have hfin := deobfFinish_eq ⟨H, msg.drop 14, beNat (H.take 4), beNat ((H.drop 4).take 8), H.getD 12 0, H.getD 13 0,
    (((msg.drop 14).length - (H.getD 13 0).toNat : Nat) : Int)⟩ _ rfl (by simp) (fun h => by simp only at h; rw [h]; rfl)
  cases hc : C.aead with
  | none => dsimp only; rw [hfin]; rfl
  | some a =>
    dsimp only
    unfold deobfQuery
    rw [gen_deobf_consts.2.2.2.2.2.2.2.2, gslice_take H _ a.nonceSize (gen_openNonceHi _) (by have := nonce_le C hn a hc; omega)]
    dsimp only [Option.map_some]
    rw [hfin]
    cases a.aopen key (H.take a.nonceSize) (msg.drop 14) [] <;> rfl

theorem decodeParts_ne_panic (C : Crypto) (key H body : Bytes) : decodeParts C key H body ≠ .panic := by
  unfold decodeParts
  dsimp only
  split
  · simp
  · split <;> simp

/-- decoding a message assembled from a plain header and a body -/
theorem deobf_parts (C : Crypto) (hs : ∀ k n l, (C.stream k n l).length = l)
    (hn : ∀ a : Aead, C.aead = some a → nonceTooLong a.nonceSize = false) (key H body : Bytes)
    (hH : H.length = 14) (hb : 8 ≤ body.length) :
    deobfuscate C key (xor H (C.stream key (body.drop (body.length - 8)) 14) ++ body) = decodeParts C key H body := by
  rw [← xhdr_append C key H body hH hb]
  have hx := xhdr_length C hs key (H ++ body) (by simp; omega)
  rw [deobf_nf C hs hn, if_neg (by simp [hx]; omega), xhdr_xhdr C hs key H body hH hb, List.drop_left' hx]

theorem openBody_honestBody (C : Crypto) (hL : Lawful C) (key H : Bytes) (f : Frame) (pad tail : Bytes) :
    ∃ t, openBody C key H (honestBody C key H f pad tail) = some (f.payload ++ (pad ++ t)) := by
  unfold openBody honestBody
  cases hc : C.aead with
  | none => exact ⟨tail, by simp⟩
  | some a => exact ⟨_, by simp [hL.unseal_seal a hc]; rfl⟩

/-- **an honest message decodes to its frame** -/
theorem decode_honest (C : Crypto) (hL : Lawful C) (key : Bytes) (f : Frame) (pad tail : Bytes)
    (hsid : f.sid < 2^32) (hseq : f.seq < 2^64) (he : pad.length + tagNF C ≤ 255)
    (htail : C.aead = none → tail.length = 8) :
    deobfuscate C key (honestMsg C key f pad tail) = .ok f := by
  unfold honestMsg
  dsimp only
  have hbl := honestBody_length C hL key (hdrNF f (pad.length + tagNF C)) f pad tail htail
  have h8 := (tagNF_bounds C hL).1
  obtain ⟨t, ht⟩ := openBody_honestBody C hL key (hdrNF f (pad.length + tagNF C)) f pad tail
  rw [deobf_parts C hL.stream_len hL.nonce_ok key _ _ (hdrNF_length _ _) (by omega)]
  unfold decodeParts
  dsimp only
  rw [hdrNF_13, UInt8.toNat_ofNat', Nat.mod_eq_of_lt (by omega), hbl, if_neg (by omega), ht]
  dsimp only
  rw [show f.payload.length + pad.length + tagNF C - (pad.length + tagNF C) = f.payload.length by omega,
    List.take_left' rfl, frameNF_hdrNF _ _ _ hsid hseq]

end Codec
