import CloakModel.Model.Sender
import CloakModel.Lemmas.SenderCore

/-! Per-call order: the payloads logged for one call are, in log (= number) order, a prefix of the
payloads its program encodes, in program order — nothing foreign, nothing twice, nothing reordered. -/

namespace SN

/-- payload ids a program still has to encode, in program order -/
def plsOf : List Instr → List Nat
  | [] => []
  | .enc _ pl :: p => pl :: plsOf p
  | .lock :: p => plsOf p
  | .unlock :: p => plsOf p
  | .chk :: p => plsOf p
  | .cas :: p => plsOf p
  | .inc :: p => plsOf p
  | .send _ :: p => plsOf p

/-- payload ids logged for call `t`, in log order -/
def mine (s : State) (t : Nat) : List Nat := (s.enc.filter (fun f => decide (f.owner = t))).map (·.pl)

/-- the payload encoded but not yet logged -/
def pendPl (th : Thread) : List Nat :=
  match th.cur, th.pend with
  | some f, true => [f.pl]
  | _, _ => []

/-- the payloads of call `t`: logged, in hand, still to be encoded -/
def payloads (s : State) (t : Nat) (th : Thread) : List Nat := mine s t ++ pendPl th ++ plsOf th.prog

/-- every call is still there, and its payloads are a prefix of those of the program it started with -/
def Q (progs : List (List Instr)) (s : State) : Prop :=
  ∀ t p0, progs[t]? = some p0 → ∃ th, s.thr[t]? = some th ∧ payloads s t th <+: plsOf p0

/-- a step moves a payload of the stepping call along `payloads` (to be encoded → in hand → logged) or, on an early
return, drops what was in hand and to come; the log of every other call is as it was -/
theorem step_payloads {s s' : State} {t : Nat} {th : Thread} (hst : Step s t th s') (htok : TOK s t th) :
    ∃ th', s'.thr = s.thr.set t th' ∧ (∀ u, u ≠ t → mine s' u = mine s u) ∧ payloads s' t th' <+: payloads s t th := by
  cases hst with
  | lock hp _ | unlock hp | chk hp _ | cas hp _ =>
    exact ⟨_, rfl, fun _ _ => rfl, by simp [payloads, mine, pendPl, hp, plsOf]⟩
  | enc hp =>
    have := (htok.head hp).2.1
    exact ⟨_, rfl, fun _ _ => rfl, by simp [payloads, mine, pendPl, hp, plsOf, this]⟩
  | @inc p f hp hcur hpend =>
    have hown := (htok.2 f hcur).1
    refine ⟨_, rfl, fun u hu => ?_, ?_⟩
    · have : ¬ f.owner = u := by rw [hown]; exact Ne.symm hu
      simp [mine, List.filter_append, this]
    · simp [payloads, mine, List.filter_append, pendPl, hp, plsOf, hcur, hpend, hown]
  | send hp _ =>
    have := (htok.head hp).2.1
    exact ⟨_, rfl, fun _ _ => rfl, by simp [payloads, mine, pendPl, hp, plsOf, this]⟩
  | ret c hp _ _ =>
    refine ⟨_, rfl, fun _ _ => rfl, ?_⟩
    have : plsOf (if s.lock = some t then [Instr.unlock] else []) = [] := by split <;> rfl
    simp only [payloads, abort, this, pendPl, List.append_nil, List.append_assoc]
    exact List.prefix_append _ _

theorem step_Q (progs : List (List Instr)) (s s' : State) (t : Nat) (h : Inv s) (hq : Q progs s)
    (hs : step s t = some s') : Q progs s' := by
  obtain ⟨th, hth, hst⟩ := step_cases hs
  obtain ⟨th', hthr, hm, hpre⟩ := step_payloads hst (h.thr t th hth)
  intro u p0 hp
  obtain ⟨uh, hu, hpre0⟩ := hq u p0 hp
  rw [hthr]
  by_cases hut : u = t
  · subst hut
    rw [hth] at hu; cases hu
    exact ⟨th', List.getElem?_set_self (List.getElem?_eq_some_iff.1 hth).1, hpre.trans hpre0⟩
  · exact ⟨uh, by rw [List.getElem?_set_ne (Ne.symm hut)]; exact hu, by rw [payloads, hm u hut]; exact hpre0⟩

theorem run_Q (progs : List (List Instr)) (sched : List Nat) (s : State) (h : Inv s) (hq : Q progs s) :
    Q progs (runSched s sched) :=
  (run_induct (step_Q progs) sched s h hq).2

theorem init_Q (progs : List (List Instr)) : Q progs (init progs) := by
  intro t p0 hp
  exact ⟨⟨p0, none, false⟩, by simp [init, hp], by simp [payloads, mine, init, pendPl]⟩

end SN
