import CloakModel.Model.Codec
import CloakModel.Lemmas.CodecCore

/-! # C11 — Forged, foreign or modified frames are rejected; garbage never breaks a session

Same model as C04 (`Model/Codec.lean`, parametric in `Gen.Codec`).  Results:

* `c11_total` (full): `deobfuscate` never reaches a run-time panic, on any byte string, for all four methods.
* `c11_auth_full` (the property as stated, kept visible) is **false** of the faithful model:
  `c11_witness : ¬ c11_auth_full`, and `c11_witness_general` shows the forgery works against *every* lawful
  cipher and every sent frame — header bytes 12 (closing flag) and 13 (extra length) are masked with a
  malleable stream cipher and are not bound into the AEAD tag, because the AEAD nonce is `header[:12]` and the
  additional data is `nil` (both are extracted call-site facts).  This is the open finding of the pinned tree.
* `c11_auth_partial` (proved under the integrity idealisation `INT`): an accepted message coincides with a
  message that was really sent everywhere except possibly at bytes 12 and 13.
* `c11_no_effect` (full): a rejected message leaves the receiver state unchanged, so later valid frames are
  processed exactly as if the garbage had never arrived. -/

namespace C11
open Codec Gen.Codec

/-! ## 1. Call-site facts this property rests on -/

/-- the AEAD nonce is a prefix `header[0:NonceSize()]` in both directions, the additional data is `nil`, a failed
`Open` returns before the frame is filled, `recvDataFromRemote` returns on a decode error before touching the
session, and `deplex` only logs that error and keeps reading -/
theorem gen_structure :
    sealNonceLo = 0 ∧ openNonceLo = 0 ∧ sealAADNil = true ∧ openAADNil = true ∧ openErrReturns = true ∧
    deobfOrder = true ∧ recvErrReturnsFirst = true ∧ deplexContinues = true := by
  and_intros <;> rfl

theorem gen_nonce_prefix (ns : Int) : sealNonceHi ns = ns ∧ openNonceHi ns = ns := by
  unfold sealNonceHi openNonceHi; omega

/-! ## 2. Totality -/

/-- **C11 (no crash).** For every cipher whose key stream has the requested length and whose nonce passed
`MakeObfuscator`'s check, every key and EVERY byte string of any length, `deobfuscate` ends in `ok` or one of
its three error returns — never in a run-time panic.  All four methods (`C.aead = none` is plain). -/
theorem c11_total (C : Crypto) (hs : ∀ k n l, (C.stream k n l).length = l)
    (hn : ∀ a : Aead, C.aead = some a → nonceTooLong a.nonceSize = false) (key msg : Bytes) :
    deobfuscate C key msg ≠ .panic := by
  rw [deobf_nf C hs hn]
  split
  · simp
  · exact decodeParts_ne_panic C key _ _

/-! ## 3. Authenticity: the full statement, its refutation, and what does hold -/

/-- what the proofs of this section use about the cipher (no decryption law: it would contradict `INT`) -/
structure CipherOK (C : Crypto) (a : Aead) : Prop where
  is_aead : C.aead = some a
  stream_len : ∀ k n l, (C.stream k n l).length = l
  seal_len : ∀ k n p, (a.aseal k n p []).length = p.length + a.overhead
  tag_ge : 8 ≤ a.overhead
  nonce12 : a.nonceSize = 12

/-- the message an honest sender emits for frame `fp.1` with padding bytes `fp.2` (AEAD methods) -/
def sentMsg (C : Crypto) (key : Bytes) (fp : Frame × Bytes) : Bytes := honestMsg C key fp.1 fp.2 []

/-- integrity idealisation for the session key: a ciphertext opens only if it is, with its nonce, one of the
ciphertexts the honest holders of the key produced for the frames in `sent` -/
def INT (C : Crypto) (a : Aead) (key : Bytes) (sent : List (Frame × Bytes)) : Prop :=
  ∀ n c p, a.aopen key n c [] = some p →
    ∃ fp ∈ sent, n = (hdrNF fp.1 (fp.2.length + tagNF C)).take a.nonceSize ∧ c = a.aseal key n (fp.1.payload ++ fp.2) []

/-- **C11 (authenticity), as stated**: with an AEAD method, a message is accepted only if it is one of the
messages produced under this session's key. -/
def c11_auth_full : Prop :=
  ∀ (C : Crypto) (a : Aead), CipherOK C a → ∀ (key : Bytes) (sent : List (Frame × Bytes)), INT C a key sent →
    ∀ (msg' : Bytes) (f' : Frame), deobfuscate C key msg' = .ok f' → ∃ fp ∈ sent, msg' = sentMsg C key fp

/-- **C11 (authenticity, partial — proved).** Under `INT`, an accepted message shares with some message that
was really sent its whole body (ciphertext, tag, hence the Salsa20 nonce) and its first 12 bytes (stream id and
sequence number).  It has the same length and can differ from it ONLY at byte 12 (closing flag) and byte 13
(extra length). -/
theorem c11_auth_partial (C : Crypto) (a : Aead) (hC : CipherOK C a) (key : Bytes) (sent : List (Frame × Bytes))
    (hINT : INT C a key sent) (msg' : Bytes) (f' : Frame) (hacc : deobfuscate C key msg' = .ok f') :
    ∃ fp ∈ sent, msg'.drop 14 = (sentMsg C key fp).drop 14 ∧ msg'.take 12 = (sentMsg C key fp).take 12 ∧
      msg'.length = (sentMsg C key fp).length := by
  have hnl : ∀ b : Aead, C.aead = some b → nonceTooLong b.nonceSize = false := by
    intro b hb
    rw [hC.is_aead] at hb
    cases hb; rw [hC.nonce12]; decide
  rw [deobf_nf C hC.stream_len hnl] at hacc
  split at hacc
  · cases hacc
  rename_i hlen
  have hB8 : 8 ≤ (msg'.drop 14).length := by simp; omega
  have hsplit := List.take_append_drop 14 msg'
  -- the masked header of `msg'` is the mask of its plain header
  have hm := xhdr_xhdr C hC.stream_len key (msg'.take 14) (msg'.drop 14) (by simp; omega) hB8
  rw [hsplit, xhdr_append C key _ _ (xhdr_length C hC.stream_len key msg' (by omega)) hB8] at hm
  unfold decodeParts openBody at hacc
  rw [hC.is_aead] at hacc
  dsimp only at hacc
  split at hacc
  · cases hacc
  cases hopen : a.aopen key ((xhdr C key msg').take a.nonceSize) (msg'.drop 14) [] with
  | none => rw [hopen] at hacc; cases hacc
  | some pt =>
    obtain ⟨fp, hfp, hn, hc⟩ := hINT _ _ _ hopen
    refine ⟨fp, hfp, ?_⟩
    unfold sentMsg honestMsg honestBody
    rw [hC.is_aead]
    dsimp only
    have hHl := hdrNF_length fp.1 (fp.2.length + tagNF C)
    generalize hdrNF fp.1 (fp.2.length + tagNF C) = H at hn hHl ⊢
    -- the sent body is the received one (`hc`); from here on only its name is needed
    rw [← hn, ← hc]
    generalize msg'.drop 14 = B at *
    have hM := mask_length C hC.stream_len key H (B.drop (B.length - 8)) hHl
    refine ⟨(List.drop_left' hM).symm, ?_, by rw [← hsplit]; simp [hM]; omega⟩
    -- same Salsa20 nonce, hence same key stream; the first 12 plain header bytes are the AEAD nonce
    rw [hC.nonce12] at hn
    rw [List.take_append_of_le_length (by rw [hM]; decide), xor_take, ← hn, ← xor_take, hm, List.take_take]
    rfl

/-- consequence in terms of positions: every byte other than bytes 12 and 13 is the sent one -/
theorem only_12_13 (m' m : Bytes) (h1 : m'.drop 14 = m.drop 14) (h2 : m'.take 12 = m.take 12) (hl : m'.length = m.length)
    (i : Nat) (hi : i ≠ 12 ∧ i ≠ 13) : m'[i]? = m[i]? := by
  by_cases h : i < 12
  · have a1 : (m'.take 12)[i]? = m'[i]? := by rw [List.getElem?_take]; simp [h]
    have a2 : (m.take 12)[i]? = m[i]? := by rw [List.getElem?_take]; simp [h]
    rw [← a1, ← a2, h2]
  · have hge : 14 ≤ i := by omega
    have a1 : (m'.drop 14)[i - 14]? = m'[i]? := by rw [List.getElem?_drop]; congr 1; omega
    have a2 : (m.drop 14)[i - 14]? = m[i]? := by rw [List.getElem?_drop]; congr 1; omega
    rw [← a1, ← a2, h1]

/-- **The forgery, against every lawful cipher** (needs no key): for every sent frame and every byte value `c'`
the message that differs from the sent one only in byte 12 (by `closing XOR c'`) is accepted and decodes to
the same frame with the closing flag replaced by `c'` — e.g. 0 → 1 closes the stream, 0 → 2 the session. -/
theorem c11_witness_general (C : Crypto) (hL : Lawful C) (h12 : ∀ a : Aead, C.aead = some a → a.nonceSize = 12)
    (key : Bytes) (f : Frame) (pad tail : Bytes) (c' : UInt8)
    (hsid : f.sid < 2^32) (hseq : f.seq < 2^64) (he : pad.length + tagNF C ≤ 255) (htail : C.aead = none → tail.length = 8) :
    ∃ msg', msg'.drop 14 = (honestMsg C key f pad tail).drop 14 ∧
            msg'.take 12 = (honestMsg C key f pad tail).take 12 ∧
            deobfuscate C key msg' = .ok { f with closing := c' } := by
  let f' : Frame := { f with closing := c' }
  -- the forged message is the honest message of f'; its body is the body of f because the nonce slice agrees
  have hbody : honestBody C key (hdrNF f' (pad.length + tagNF C)) f' pad tail
      = honestBody C key (hdrNF f (pad.length + tagNF C)) f pad tail := by
    unfold honestBody
    cases hc : C.aead with
    | none => rfl
    | some a => dsimp only; rw [h12 a hc, hdrNF_take12, hdrNF_take12]
  have hM := fun (g : Frame) (n : Bytes) => mask_length C hL.stream_len key _ n (hdrNF_length g (pad.length + tagNF C))
  refine ⟨honestMsg C key f' pad tail, ?_, ?_, decode_honest C hL key f' pad tail hsid hseq he htail⟩
  · unfold honestMsg
    dsimp only
    rw [hbody, List.drop_left' (hM _ _), List.drop_left' (hM _ _)]
  · unfold honestMsg
    dsimp only
    rw [hbody, List.take_append_of_le_length (by rw [hM]; decide), List.take_append_of_le_length (by rw [hM]; decide),
      xor_take, xor_take, hdrNF_take12, hdrNF_take12]

/-! ### a concrete cipher with perfect integrity for one sent message -/

def f0 : Frame := ⟨3, 9, 0, [0x61, 0x62, 0x63, 0x64]⟩
def key0 : Bytes := []
def n0 : Bytes := (hdrNF f0 16).take 12
def c0 : Bytes := f0.payload ++ List.replicate 16 7

/-- opens exactly the one ciphertext that was sent (with its nonce): `INT` holds by construction -/
def intAead : Aead :=
  ⟨16, 12, fun _ _ p _ => p ++ List.replicate 16 7, fun _ n c _ => if n = n0 ∧ c = c0 then some f0.payload else none⟩

def intC : Crypto := ⟨some intAead, fun _ _ l => List.replicate l 0x5a⟩

theorem intC_ok : CipherOK intC intAead where
  is_aead := rfl
  stream_len := by intro k n l; simp [intC]
  seal_len := by intro k n p; simp [intAead]
  tag_ge := by decide
  nonce12 := rfl

theorem intC_INT : INT intC intAead key0 [(f0, [])] := by
  intro n c p h
  refine ⟨(f0, []), by simp, ?_⟩
  simp only [intAead] at h
  split at h
  · rename_i hnc
    obtain ⟨h1, h2⟩ := hnc
    subst h1 h2
    constructor
    · decide
    · decide
  · cases h

/-- the sent message with bit 0 of byte 12 flipped -/
def forged12 : Bytes := (sentMsg intC key0 (f0, [])).modify 12 (· ^^^ 1)
/-- the sent message with byte 13 changed so that the extra length reads 18 instead of 16 -/
def forged13 : Bytes := (sentMsg intC key0 (f0, [])).modify 13 (· ^^^ (16 ^^^ 18))

/-- both forgeries are accepted: the first with the closing flag 0 → 1, the second with the payload cut short -/
theorem forged_accepted :
    deobfuscate intC key0 (sentMsg intC key0 (f0, [])) = .ok f0 ∧
    deobfuscate intC key0 forged12 = .ok { f0 with closing := 1 } ∧
    deobfuscate intC key0 forged13 = .ok { f0 with payload := [0x61, 0x62] } ∧
    forged12 ≠ sentMsg intC key0 (f0, []) ∧ forged13 ≠ sentMsg intC key0 (f0, []) := by decide

/-- **C11 (authenticity) is false of the pinned code**: a cipher with perfect integrity, one sent message, and
a modified message that is nevertheless accepted. -/
theorem c11_witness : ¬ c11_auth_full := by
  intro h
  obtain ⟨fp, hfp, heq⟩ := h intC intAead intC_ok key0 [(f0, [])] intC_INT forged12 _ forged_accepted.2.1
  simp only [List.mem_singleton] at hfp
  subst hfp
  exact forged_accepted.2.2.2.1 heq

/-- non-vacuity of `c11_auth_partial`: its hypotheses hold for `intC`, and the forged message is a case where
its conclusion is the best possible (same body, same first 12 bytes, byte 12 differs) -/
example : CipherOK intC intAead ∧ INT intC intAead key0 [(f0, [])] ∧
    forged12.drop 14 = (sentMsg intC key0 (f0, [])).drop 14 ∧ forged12.take 12 = (sentMsg intC key0 (f0, [])).take 12 ∧
    forged12[12]? ≠ (sentMsg intC key0 (f0, []))[12]? :=
  ⟨intC_ok, intC_INT, by decide, by decide, by decide⟩

/-! ## 4. Rejected input has no effect -/

/-- is `msg` accepted by `deobfuscate`? -/
def accepted (C : Crypto) (key msg : Bytes) : Bool :=
  match deobfuscate C key msg with
  | .ok _ => true
  | _ => false

theorem recv_rejected {σ : Type} (C : Crypto) (key : Bytes) (deliver : σ → Frame → σ) (s : σ) (msg : Bytes)
    (h : accepted C key msg = false) : recv C key deliver s msg = s := by
  unfold accepted at h
  unfold recv
  split
  · rename_i f hf; rw [hf] at h; cases h
  · rfl

/-- **C11 (no effect).** Whatever the session does with decoded frames (`deliver`), feeding it any sequence of
received messages gives the same state as feeding only the accepted ones: rejected input — garbage, forged or
foreign messages — changes nothing, and every later valid frame is processed as if it had not arrived. -/
theorem c11_no_effect {σ : Type} (C : Crypto) (key : Bytes) (deliver : σ → Frame → σ) (msgs : List Bytes) :
    ∀ s : σ, msgs.foldl (recv C key deliver) s = (msgs.filter (accepted C key)).foldl (recv C key deliver) s := by
  induction msgs with
  | nil => intro s; rfl
  | cons m rest ih =>
    intro s
    rw [List.foldl_cons, List.filter_cons]
    cases h : accepted C key m with
    | false => simp only [Bool.false_eq_true, if_false]; rw [recv_rejected C key deliver s m h]; exact ih s
    | true => simp only [if_true, List.foldl_cons]; exact ih _

/-- the form used by the harness scenario: garbage first, then valid traffic -/
theorem c11_garbage_then_valid {σ : Type} (C : Crypto) (key : Bytes) (deliver : σ → Frame → σ) (garbage rest : List Bytes)
    (hg : ∀ g ∈ garbage, accepted C key g = false) (s : σ) :
    (garbage ++ rest).foldl (recv C key deliver) s = rest.foldl (recv C key deliver) s := by
  rw [List.foldl_append]
  congr 1
  rw [c11_no_effect]
  have : garbage.filter (accepted C key) = [] := by
    rw [List.filter_eq_nil_iff]; intro g hgm; rw [hg g hgm]; simp
  rw [this]; rfl

/-- non-vacuity: with the toy cipher, a short string and a string with a bad extra length are rejected and a real
message after them is delivered -/
example :
    let deliver : List Frame → Frame → List Frame := fun s f => s ++ [f]
    [[1, 2, 3], List.replicate 40 0xff, sentMsg intC key0 (f0, [])].foldl (recv intC key0 deliver) [] = [f0] := by
  decide

end C11

#print axioms C11.c11_total
#print axioms C11.c11_auth_partial
#print axioms C11.c11_witness
#print axioms C11.c11_witness_general
#print axioms C11.c11_no_effect
