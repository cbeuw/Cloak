import CloakModel.Model.ServerConfig

/-! C09 "the configured redirect target" (links to C07 "authorised", C06 "a method it serves"):
theorems about `Model/ServerConfig.lean`, i.e. about the term regenerated from `parseRedirAddr` (Gen.ServerCfg.redirSplit),
the key arrays of `InitState`/`IsBypass` and the loop of `parseProxyBook`.

EXTERNAL, not modelled: `net.ResolveIPAddr` (parameter `resolve`), so "the configured host" below is the text handed to
the resolver; that the resolver maps an IP literal to itself in canonical form is Go's. -/
namespace C09T
open SCfg

/-! ### strings.Split -/

theorem split1_snd_length (c : Char) (s : Str) : (split1 c s).2.length = s.count c := by
  induction s with
  | nil => simp [split1]
  | cons x xs ih =>
    by_cases h : x = c
    · subst h; simp [split1, ih]
    · have : (x == c) = false := by simpa using h
      simp [split1, h, ih, List.count_cons, this]

theorem splitOn_length (c : Char) (s : Str) : (splitOn c s).length = s.count c + 1 := by
  simp [splitOn, split1_snd_length]

theorem split1_no (c : Char) (s : Str) (h : c ∉ s) : split1 c s = (s, []) := by
  induction s with
  | nil => simp [split1]
  | cons x xs ih =>
    have hx : x ≠ c := fun e => h (by simp [e])
    have hxs : c ∉ xs := fun e => h (by simp [e])
    simp [split1, hx, ih hxs]

theorem splitOn_no (c : Char) (s : Str) (h : c ∉ s) : splitOn c s = [s] := by
  simp [splitOn, split1_no c s h]

theorem splitOn_append_sep (c : Char) (a b : Str) : splitOn c (a ++ c :: b) = splitOn c a ++ splitOn c b := by
  induction a with
  | nil => simp [splitOn, split1]
  | cons x xs ih =>
    simp only [splitOn] at ih ⊢
    by_cases h : x = c
    · subst h
      simp only [List.cons_append, split1, if_true]
      rw [ih]; simp
    · simp only [List.cons_append, split1, h, if_false]
      have e1 := congrArg List.head? ih
      have e2 := congrArg List.tail ih
      simp at e1 e2
      simp [e1, e2]

/-! ### TrimPrefix / TrimSuffix -/

theorem stripPrefix_append (p r : Str) : stripPrefix p (p ++ r) = some r := by
  induction p with
  | nil => simp [stripPrefix]
  | cons x xs ih => simp [stripPrefix, ih]

theorem trimSuffix_append (a suf : Str) : trimSuffix (a ++ suf) suf = a := by
  simp [trimSuffix, List.reverse_append, stripPrefix_append]

theorem trimPrefix_append (pre r : Str) : trimPrefix (pre ++ r) pre = r := by
  simp [trimPrefix, stripPrefix_append]

/-! ### the documented forms of RedirAddr, for ALL strings of each form -/

theorem e58 : Char.ofNat 58 = ':' := rfl
theorem e91 : Char.ofNat 91 = '[' := rfl
theorem e93 : Char.ofNat 93 = ']' := rfl

/-- `host` (domain or IPv4, no port): the whole text goes to the resolver, no port -/
theorem split_host (h : Str) (hc : ':' ∉ h) : redirSplit h = some (h, []) := by
  simp [redirSplit, Gen.ServerCfg.redirSplit, e58, splitOn_no ':' h hc]

/-- `host:port` -/
theorem split_host_port (h p : Str) (hc : ':' ∉ h) (pc : ':' ∉ p) : redirSplit (h ++ ':' :: p) = some (h, p) := by
  have : splitOn ':' (h ++ ':' :: p) = [h, p] := by
    rw [splitOn_append_sep, splitOn_no ':' h hc, splitOn_no ':' p pc]; rfl
  simp [redirSplit, Gen.ServerCfg.redirSplit, e58, this]

/-- `[v6]:port`, for every bracketed text containing a colon (any zone, any characters) -/
theorem split_bracket (h p : Str) (hc : ':' ∈ h) (pc : ':' ∉ p) :
    redirSplit ('[' :: (h ++ ']' :: ':' :: p)) = some (h, p) := by
  have e : ('[' :: (h ++ ']' :: ':' :: p)) = ('[' :: (h ++ [']'])) ++ ':' :: p := by simp
  have hs : splitOn ':' ('[' :: (h ++ ']' :: ':' :: p)) = splitOn ':' ('[' :: (h ++ [']'])) ++ [p] := by
    rw [e, splitOn_append_sep, splitOn_no ':' p pc]
  have hl : 2 ≤ (splitOn ':' ('[' :: (h ++ [']']))).length := by
    rw [splitOn_length]
    have : 0 < List.count ':' ('[' :: (h ++ [']'])) := List.count_pos_iff.mpr (by simp [hc])
    omega
  have e2 : ('[' :: (h ++ ']' :: ':' :: p)) = ('[' :: h) ++ ([']', ':'] ++ p) := by simp
  have ht : trimSuffix ('[' :: (h ++ ']' :: ':' :: p)) (']' :: ':' :: p) = '[' :: h := by
    rw [e2]; exact trimSuffix_append ('[' :: h) ([']', ':'] ++ p)
  have hp : trimPrefix ('[' :: h) ['['] = h := trimPrefix_append ['['] h
  have hcont : contains ('[' :: (h ++ ']' :: ':' :: p)) '[' = true := by simp [contains]
  have hlen : ¬ ((splitOn ':' ('[' :: (h ++ [']']))).length + 1 = 2) := by omega
  have hgt : (splitOn ':' ('[' :: (h ++ [']']))).length + 1 > 1 := by omega
  simp only [redirSplit, Gen.ServerCfg.redirSplit, e58, e91, e93]
  simp only [hs, List.length_append, List.length_singleton]
  simp [hlen, hgt, hcont, ht, hp]

/-- bare IPv6 (two or more colons, no bracket): the whole text goes to the resolver, no port -/
theorem split_bare_v6 (s : Str) (h2 : 2 ≤ s.count ':') (nb : '[' ∉ s) : redirSplit s = some (s, []) := by
  have hl := splitOn_length ':' s
  have hcont : contains s '[' = false := by simpa [contains] using nb
  have h1 : (splitOn ':' s).length > 1 := by omega
  have h3 : ¬ (splitOn ':' s).length = 2 := by omega
  simp [redirSplit, Gen.ServerCfg.redirSplit, e58, e91, h1, h3, hcont]

/-- HEADLINE: the split is the inverse of `net.JoinHostPort`, for every host and every port without ':' -/
theorem split_join (h p : Str) (pc : ':' ∉ p) : redirSplit (joinHostPort h p) = some (h, p) := by
  unfold joinHostPort
  by_cases hc : ':' ∈ h
  · have : contains h ':' = true := by simpa [contains] using hc
    simp only [this, if_true]
    exact split_bracket h p hc pc
  · have : contains h ':' = false := by simpa [contains] using hc
    simp only [this]
    exact split_host_port h p hc pc

example : redirSplit (joinHostPort "fe80::1%eth0".toList "8443".toList) = some ("fe80::1%eth0".toList, "8443".toList) := by decide
example : redirSplit "example.com:443".toList = some ("example.com".toList, "443".toList) := by decide
example : redirSplit "2001:db8::1".toList = some ("2001:db8::1".toList, []) := by decide

/-- no RedirAddr makes `parseRedirAddr` panic (every index into the split result is in range) -/
theorem redirSplit_total (s : Str) : ∃ r, redirSplit s = some r := by
  simp only [redirSplit, Gen.ServerCfg.redirSplit]
  generalize splitOn (Char.ofNat 58) s = l
  rcases l with _ | ⟨a, _ | ⟨b, _ | ⟨c, t⟩⟩⟩
  · simp
  · simp
  · simp
  · have : ((a :: b :: c :: t).getLast?) = some ((a :: b :: c :: t).getLast (by simp)) := List.getLast?_eq_some_getLast (by simp)
    by_cases hb : contains s (Char.ofNat 91) = true <;> simp [hb, this]

theorem parseRedirAddr_no_panic (resolve : Str → Option Str) (s : Str) : parseRedirAddr resolve s ≠ .panic := by
  obtain ⟨r, hr⟩ := redirSplit_total s
  unfold parseRedirAddr
  rw [hr]
  cases h : resolve r.1 <;> simp [h]

/-! ### the address dialled for an unauthenticated peer -/

/-- HEADLINE: a RedirAddr written as `JoinHostPort h p` (i.e. `h:p`, or `[h]:p` for a host with colons), `p` non-empty:
`goWeb` dials `JoinHostPort (resolved h) p`, whatever the local address of the connection is -/
theorem c09_target_with_port (resolve : Str → Option Str) (h p a lp : Str) (pc : ':' ∉ p) (pne : p ≠ [])
    (hr : resolve h = some a) :
    ∃ host port, parseRedirAddr resolve (joinHostPort h p) = .ok host port ∧ dialAddr host port lp = joinHostPort a p := by
  refine ⟨a, p, ?_, ?_⟩
  · simp [parseRedirAddr, split_join h p pc, hr]
  · simp [dialAddr, pne]

/-- a RedirAddr without a port (`host`, or bare IPv6): `goWeb` dials the resolved host at the port of the connection's
local address -/
theorem c09_target_default_port (resolve : Str → Option Str) (s a lp : Str)
    (form : ':' ∉ s ∨ (2 ≤ s.count ':' ∧ '[' ∉ s)) (hr : resolve s = some a) :
    ∃ host port, parseRedirAddr resolve s = .ok host port ∧ dialAddr host port lp = joinHostPort a lp := by
  have hs : redirSplit s = some (s, []) := by
    rcases form with f | ⟨f1, f2⟩
    · exact split_host s f
    · exact split_bare_v6 s f1 f2
  refine ⟨a, [], ?_, ?_⟩
  · simp [parseRedirAddr, hs, hr]
  · simp [dialAddr]

/-- a host the resolver refuses is an error of `parseRedirAddr` (and of `InitState`), never a relay elsewhere -/
theorem c09_target_unresolvable (resolve : Str → Option Str) (h p : Str) (pc : ':' ∉ p) (hr : resolve h = none) :
    parseRedirAddr resolve (joinHostPort h p) = .err := by
  simp [parseRedirAddr, split_join h p pc, hr]

example : parseRedirAddr (fun h => some h) "[::1]:80".toList = .ok "::1".toList "80".toList ∧
    dialAddr "::1".toList "80".toList "443".toList = "[::1]:80".toList := by decide

/-! ### outside the documented forms: what the code does (stated, and compared with the real code by T2) -/

/-- `host:` (empty port) is taken as "no port": the local port is used -/
theorem odd_empty_port (h : Str) (hc : ':' ∉ h) : redirSplit (h ++ [':']) = some (h, []) := by
  simpa using split_host_port h [] hc (by simp)

/-- `[h]:p` around a host WITHOUT a colon (e.g. `[1.2.3.4]:80`) keeps the brackets in the text given to the resolver -/
theorem odd_bracket_no_colon (h p : Str) (hc : ':' ∉ h) (pc : ':' ∉ p) :
    redirSplit ('[' :: (h ++ ']' :: ':' :: p)) = some ('[' :: (h ++ [']']), p) := by
  have hb : ':' ∉ ('[' :: (h ++ [']'])) := by simp [hc]
  have := split_host_port ('[' :: (h ++ [']'])) p hb pc
  simpa using this

/-- `[::1]` without a port: the resolver is asked for `::1]` (which no resolver accepts: an error, not a relay) -/
theorem odd_bracket_no_port : redirSplit "[::1]".toList = some ("::1]".toList, "1]".toList) := by decide

/-- an unset RedirAddr reaches the resolver as the empty host (Go resolves it to the empty address: the server starts and
relays to ":<local port>", i.e. to itself — observation, see selftest/C09target.md) -/
theorem odd_empty : redirSplit [] = some ([], []) := by decide

/-! ### BypassUID / AdminUID table (C07's "a UID the server currently authorises") -/

theorem gen_key_len : keyLen = 16 := by decide

theorem gen_admin_added (n : Nat) : Gen.ServerCfg.initAdminKeyAdded (n : Int) = true ↔ n ≠ 0 := by
  unfold Gen.ServerCfg.initAdminKeyAdded; simp

theorem key_length (n : Nat) (u : Bytes) : (key n u).length = n := by
  simp [key]; omega

theorem key_exact (n : Nat) (u : Bytes) (h : u.length = n) : key n u = u := by
  simp [key, h, List.take_of_length_le]

/-- HEADLINE: `IsBypass uid` ⇔ some configured entry (or the non-empty AdminUID) has the same truncated / zero-padded
16-byte key — for all tables and all uids -/
theorem isBypass_iff (b : List Bytes) (a uid : Bytes) :
    isBypass (bypassTable b a) uid = true ↔
      ∃ e, (e ∈ b ∨ (e = a ∧ a ≠ [])) ∧ key keyLen e = key keyLen uid := by
  unfold isBypass bypassTable
  by_cases ha : a = []
  · subst ha
    simp [Gen.ServerCfg.initAdminKeyAdded]
  · have hl : a.length ≠ 0 := by simpa using ha
    have : Gen.ServerCfg.initAdminKeyAdded (a.length : Int) = true := (gen_admin_added a.length).mpr hl
    simp [this, ha]
    constructor
    · rintro (h | h)
      · exact Or.inl h
      · exact Or.inr h.symm
    · rintro (h | h)
      · exact Or.inl h
      · exact Or.inr h.symm

/-- for a well-formed configuration (16-byte entries) and a 16-byte UID: exactly the listed UIDs are bypass users -/
theorem c07_bypass_wellformed (b : List Bytes) (a uid : Bytes) (hb : ∀ e ∈ b, e.length = 16)
    (ha : a = [] ∨ a.length = 16) (hu : uid.length = 16) :
    isBypass (bypassTable b a) uid = true ↔ uid ∈ b ∨ uid = a := by
  rw [isBypass_iff, gen_key_len]
  constructor
  · rintro ⟨e, he | ⟨he, hne⟩, hk⟩
    · rw [key_exact 16 e (hb e he), key_exact 16 uid hu] at hk; subst hk; exact Or.inl he
    · subst he
      rcases ha with ha | ha
      · exact absurd ha hne
      · rw [key_exact 16 e ha, key_exact 16 uid hu] at hk; exact Or.inr hk.symm
  · rintro (h | h)
    · exact ⟨uid, Or.inl h, rfl⟩
    · subst h
      refine ⟨uid, Or.inr ⟨rfl, ?_⟩, rfl⟩
      intro e; rw [e] at hu; simp at hu

example : isBypass (bypassTable [[1,2,3]] []) ([1,2,3] ++ List.replicate 13 0) = true := by decide
/-- an entry of the wrong length is not refused: it authorises its zero-padded / truncated form -/
theorem bypass_short_entry_witness : isBypass (bypassTable [[1,2,3]] []) [1,2,3] = true ∧
    isBypass (bypassTable [List.replicate 20 7] []) (List.replicate 16 7) = true := by decide

/-! ### ProxyBook -/

theorem lowerC_idem (c : Char) : lowerC (lowerC c) = lowerC c := by
  unfold lowerC
  by_cases h : 'A' ≤ c ∧ c ≤ 'Z'
  · have h1 : 65 ≤ c.toNat := h.1
    have h2 : c.toNat ≤ 90 := h.2
    have hv : (c.toNat + 32).isValidChar := by
      left; omega
    have hn : (Char.ofNat (c.toNat + 32)).toNat = c.toNat + 32 := by
      rw [Char.ofNat, dif_pos hv]; rfl
    have : ¬ ('A' ≤ Char.ofNat (c.toNat + 32) ∧ Char.ofNat (c.toNat + 32) ≤ 'Z') := by
      intro ⟨_, k⟩
      have k' : (Char.ofNat (c.toNat + 32)).toNat ≤ 90 := k
      omega
    simp [h, this]
  · simp [h]

/-- the load stores under the lower-cased name and the dispatcher looks up the lower-cased method: idempotent -/
theorem lower_idem (s : Str) : lower (lower s) = lower s := by
  simp [lower, lowerC_idem]

/-- which entry ends up in the book: pair of length 2, network tcp/udp in any case, address resolves → stored under the
lower-cased name; network unknown → silently skipped; otherwise an error -/
theorem parseEntry_spec (resolve : String → Str → Option Str) (e : Entry) :
    parseEntry resolve e =
      match e.pair with
      | [nw, addr] =>
        (match bookResolver (lower nw) with
         | none => .skip
         | some r => match resolve r addr with
           | none => .err
           | some a => .store (lower e.name) a)
      | _ => .err := by
  unfold parseEntry Gen.ServerCfg.bookPairBad
  rcases h : e.pair with _ | ⟨a, _ | ⟨b, _ | ⟨c, t⟩⟩⟩ <;> simp
  all_goals (first | rfl | omega | (cases bookResolver (lower a) <;> first | rfl | (rename_i r; cases resolve r b <;> rfl)))

theorem gen_book_networks : bookResolver "tcp".toList = some "ResolveTCPAddr:tcp" ∧ bookResolver "udp".toList = some "ResolveUDPAddr:udp" ∧
    bookResolver "tcp4".toList = none ∧ bookResolver "unix".toList = none ∧ bookResolver [] = none ∧
    Gen.ServerCfg.bookCases.length = 2 := by decide

theorem parseEntry_no_panic (resolve : String → Str → Option Str) (e : Entry) : parseEntry resolve e ≠ .panic := by
  rw [parseEntry_spec]
  repeat' split
  all_goals simp

theorem parseProxyBook_no_panic (resolve : String → Str → Option Str) (es : List Entry) (b : Book) :
    parseProxyBook resolve es b ≠ .panic := by
  induction es generalizing b with
  | nil => simp [parseProxyBook]
  | cons e es ih =>
    unfold parseProxyBook
    cases h : parseEntry resolve e with
    | panic => exact absurd h (parseEntry_no_panic resolve e)
    | err => simp
    | skip => simpa using ih b
    | store k v => simpa using ih _

/-- an entry with an unknown network name is dropped WITHOUT an error (observation: the method is then not served and its
clients are relayed to the redirect target) -/
theorem book_unknown_network_dropped :
    parseProxyBook (fun _ a => some a) [⟨"ss".toList, ["tcp4".toList, "127.0.0.1:1".toList]⟩] [] = .ok [] ∧
    parseProxyBook (fun _ a => some a) [⟨"SS".toList, ["TCP".toList, "127.0.0.1:1".toList]⟩] [] = .ok [("ss".toList, "127.0.0.1:1".toList)] := by decide

/-! ### regenerated structure facts -/

theorem gen_structure :
    Gen.ServerCfg.redirResolveNetwork = "ip" ∧ Gen.ServerCfg.redirResolveErrIsError = true ∧
    Gen.ServerCfg.goWebDial = true ∧ Gen.ServerCfg.goWebDialNetwork = "tcp" ∧
    Gen.ServerCfg.bookKeyLowered = true ∧ Gen.ServerCfg.bookNetworkLowered = true ∧ Gen.ServerCfg.bookPairBadIsError = true ∧
    Gen.ServerCfg.bookHasDefault = false ∧ Gen.ServerCfg.bookLenTestFirst = true ∧ Gen.ServerCfg.bookReturnsBook = true ∧
    Gen.ServerCfg.dispatchLookupLowered = true ∧
    Gen.ServerCfg.initOrder = ["cnc", "manager", "panel", "keepalive", "redir", "book", "key", "pv", "admin", "bypass", "adminkey", "cleaner"] ∧
    Gen.ServerCfg.initErrReturns = 3 ∧ Gen.ServerCfg.initCncIsError = true ∧ Gen.ServerCfg.initKeyMissingIsError = true ∧
    Gen.ServerCfg.initVoidThenLocalElse = true ∧ Gen.ServerCfg.isBypassShape = true ∧ Gen.ServerCfg.initCopies = 3 ∧
    Gen.ServerCfg.initKeyCopiesWhole = true := by and_intros <;> rfl

theorem gen_init_exprs (ka : Int) (n : Nat) (d : Bool) :
    (Gen.ServerCfg.initKeepAliveCond ka = true ↔ ka ≤ 0) ∧ Gen.ServerCfg.initKeepAliveThen ka = -1 ∧
    Gen.ServerCfg.initKeepAliveElse ka = ka * 1000000000 ∧
    (Gen.ServerCfg.initKeyMissing (n : Int) = true ↔ n = 0) ∧
    (Gen.ServerCfg.initVoidManager (n : Int) d = true ↔ n = 0 ∨ d = true) ∧
    (Gen.ServerCfg.bookPairBad (n : Int) = true ↔ n ≠ 2) := by
  unfold Gen.ServerCfg.initKeepAliveCond Gen.ServerCfg.initKeepAliveThen Gen.ServerCfg.initKeepAliveElse
    Gen.ServerCfg.initKeyMissing Gen.ServerCfg.initVoidManager Gen.ServerCfg.bookPairBad
  refine ⟨by simp, by simp, by simp, by simp, by simp, by simp; omega⟩

example : ∃ s, initState { resolveIP := fun h => some h, resolveBook := fun _ a => some a, dbOpens := false }
    { proxyBook := [⟨"SS".toList, ["TCP".toList, "127.0.0.1:1".toList]⟩], bypassUID := [[1]], redirAddr := "1.2.3.4:80".toList,
      privateKey := [1], adminUID := [], dbPathEmpty := true, keepAlive := 5, cnc := false } = .ok s ∧
    s.proxyKeepAlive = 5000000000 ∧ s.redirPort = "80".toList ∧ bookGet s.book "ss".toList = some "127.0.0.1:1".toList :=
  ⟨_, rfl, by decide, by decide, by decide⟩

#print axioms split_join
#print axioms isBypass_iff

end C09T
