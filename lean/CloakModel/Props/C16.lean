import CloakModel.Lemmas.AcctCore

/-! # C16 — Usage is charged exactly once and exhausted or expired users are cut off

Model: `Model/Acct.lean` (atomic steps = the critical sections / atomic operations the extractor saw).
Conservation law per user and direction, with ghost variables:
`carried = (granted − stored) + inflight + queue + pending + valve + old + dropped`, every term ≥ 0. -/

namespace C16
open Acct

/-! ## 1. What the extracted facts say -/

/-- OBLIGATION: bytes read from a client connection are added to `rx` for EVERY read, bytes written are added to
`tx` after a successful write with the returned count; `rx` is collected as "up", `tx` as "down"; the queue keeps
them apart; `commitUpdate` reports them as UpUsage / DownUsage; `UploadStatus` deducts UpUsage from UpCredit and
DownUsage from DownCredit. -/
theorem gen_direction :
    Gen.Acct.addRxEveryRead = true ∧ Gen.Acct.addTxAfterWrite = true ∧ Gen.Acct.txWaitBeforeWrite = true ∧
    Gen.Acct.valveAdds = true ∧ Gen.Acct.nullifyIsSwapRxTx = true ∧ Gen.Acct.collectChain = true ∧
    Gen.Acct.usagePairOrder = true ∧ Gen.Acct.statusFromQueue = true ∧ Gen.Acct.uploadReadsWrites = true ∧
    Gen.Acct.creditCodec = true := by and_intros <;> rfl

/-- OBLIGATION: step granularity — every queue access under `usageUpdateQueueM`, commit's snapshot and reset in the
same section, the collection of all users inside both locks, the upload one transaction, the response loop
terminating via `TerminateActiveUser` which collects, closes every session, then deletes. -/
theorem gen_structure :
    Gen.Acct.queueUnderLock = true ∧ Gen.Acct.queueAccessElsewhere = 0 ∧ Gen.Acct.collectUnderBothLocks = true ∧
    Gen.Acct.uploadOneTransaction = true ∧ Gen.Acct.uploadVerdicts = true ∧ Gen.Acct.commitTerminates = true ∧
    Gen.Acct.terminateOrder = true ∧ Gen.Acct.closeAllClosesEvery = true ∧ Gen.Acct.freshValvePerRecord = true := by
  and_intros <;> rfl

/-- OBLIGATION: the verdict comparisons of `UploadStatus` -/
theorem gen_verdict (s : St) (now : Int) (u : U) :
    verdict s now u = true ↔
      (s.present u = false ∨ s.stored (u, false) ≤ 0 ∨ s.stored (u, true) ≤ 0 ∨ s.expiry u < now) := by
  unfold verdict Gen.Acct.uploadUpExhausted Gen.Acct.uploadDownExhausted Gen.Acct.uploadExpired
  simp only [Bool.or_eq_true, Bool.not_eq_true', decide_eq_true_eq]
  cases s.present u <;> simp <;> omega

/-! ## 2. Conservation, at most once, exactness -/

/-- **C16 conservation**: in every reachable state, for every user and direction -/
theorem c16_conservation (evs : List Ev) : Inv (run init evs) ∧ NonNeg (run init evs) :=
  ⟨run_inv evs init inv_init, run_nonneg evs init nonneg_init⟩

/-- **C16 at most once, never from another user**: what has been deducted from `(u, dir)`'s credit never exceeds
what `u` itself carried in that direction — after ANY interleaving of traffic on any users, collections, commits,
terminations, re-activations and admin changes. -/
theorem c16_at_most_once (evs : List Ev) (k : K) :
    let s := run init evs
    s.granted k - s.stored k ≤ s.carried k := by
  obtain ⟨hi, hn⟩ := c16_conservation evs
  have h1 := hi k
  obtain ⟨a, b, c, d, e, f⟩ := hn k
  have hf := fsum_nonneg _ k f
  simp only
  omega

/-- in particular a user who carried nothing is charged nothing, whatever the others do -/
theorem c16_no_cross_charge (evs : List Ev) (k : K) (h0 : (run init evs).carried k = 0) :
    (run init evs).granted k ≤ (run init evs).stored k := by
  have := c16_at_most_once evs k
  simp only at this
  omega

/-- **C16 exact** (state form): once nothing is left in a valve, in a retired record's valve, pending, queued or in
flight for `(u, dir)`, and nothing was dropped for a deleted user, the stored credit is the granted credit minus
the volume carried. -/
theorem c16_exact (evs : List Ev) (k : K) :
    let s := run init evs
    s.valve k = 0 → s.old k = 0 → s.pending k = 0 → s.queue k = 0 → fsum s.inflight k = 0 → s.dropped k = 0 →
    s.stored k = s.granted k - s.carried k := by
  obtain ⟨hi, _⟩ := c16_conservation evs
  have h1 := hi k
  simp only
  intros
  omega

/-- **C16 exact** (operational form): traffic has stopped; for an active, existing user with nothing stranded
(`old`, `pending`, `dropped`) and no upload in flight, ONE collection followed by ONE commit (snapshot + upload)
makes the stored credit equal granted − carried. -/
theorem c16_exact_after_round (evs : List Ev) (k : K) (now : Int) :
    let s := run init evs
    k.1 ∈ s.actives → s.present k.1 = true → s.old k = 0 → s.pending k = 0 → s.dropped k = 0 → s.inflight = [] →
    let s' := run s [.collectAll, .snapshot, .upload now]
    s'.stored k = s'.granted k - s'.carried k ∧ s'.carried k = s.carried k := by
  intro s hact hpres hold hpend hdrop hinf s'
  -- the conservation law in `s'`, every term of it written out in those of `s`
  have h1 := run_inv [.collectAll, .snapshot, .upload now] s (c16_conservation evs).1 k
  simp only [run, List.foldl, step, hinf, List.nil_append, hact, hpres, if_true, fsum, List.map_nil, List.sum_nil] at h1
  simp only [s', run, List.foldl, step, hinf, List.nil_append, hact, hpres, if_true]
  exact ⟨by omega, trivial⟩

/-- non-vacuity: two users, traffic in both directions, a collection, a commit, a termination and a re-activation -/
example :
    let s := run init [.put 1 1000 2000 50, .put 2 500 500 50, .activate 1 10, .activate 2 10, .openSess 1,
      .traffic 1 false 30, .traffic 1 true 70, .traffic 2 false 5, .collectAll, .traffic 1 false 1, .snapshot,
      .upload 11, .swapOne 1, .enqueueOne 1, .closeAllSess 1, .retire 1, .snapshot, .upload 12]
    (s.stored (1, false), s.stored (1, true), s.stored (2, false), s.carried (1, false), s.actives) =
      (969, 1930, 495, 31, [2]) := by decide

/-! ## 3. Cut-off -/

theorem terminate_actives (s : St) (u : U) : (terminate s u).actives = s.actives.filter (· ≠ u) := by
  simp [terminate, step]

theorem terminate_nsess (s : St) (u : U) : (terminate s u).nsess = fun x => if x = u then 0 else s.nsess x := by
  simp [terminate, step]

/-- after the commit of a snapshot, every user in it for whom the transaction left a credit ≤ 0, or found the
expiry passed, or found no record, is no longer active and (its record's) sessions are all closed -/
def CutOff (s : St) (u : U) : Prop := u ∉ s.actives ∧ s.nsess u = 0

/-- sessions only exist in active records (true of every state the response loop starts from) -/
def Wf (s : St) (u : U) : Prop := u ∉ s.actives → s.nsess u = 0

theorem respond_step_wf (st : St) (u v : U) (h : Wf st u) :
    Wf (if v ∈ st.actives then terminate st v else st) u := by
  split
  · intro hn
    rw [terminate_actives] at hn
    rw [terminate_nsess]
    by_cases huv : u = v
    · simp [huv]
    · have : u ∉ st.actives := by
        intro hm; apply hn; simp [List.mem_filter, hm, huv]
      simp [huv, h this]
  · exact h

theorem respond_step_cut (st : St) (u v : U) (h : CutOff st u) :
    CutOff (if v ∈ st.actives then terminate st v else st) u := by
  split
  · refine ⟨?_, ?_⟩
    · rw [terminate_actives]; intro hm; exact h.1 (List.mem_filter.1 hm).1
    · rw [terminate_nsess]; by_cases huv : u = v <;> simp [huv, h.2]
  · exact h

theorem respondAll_cut (vs : List U) (u : U) (st : St) (h : CutOff st u) : CutOff (respondAll vs st) u :=
  List.foldlRecOn (motive := (CutOff · u)) vs _ h (fun st hs v _ => respond_step_cut st u v hs)

theorem respondAll_mem (vs : List U) (u : U) (hu : u ∈ vs) : ∀ st : St, Wf st u → CutOff (respondAll vs st) u := by
  induction vs with
  | nil => cases hu
  | cons v rest ih =>
    intro st hw
    simp only [respondAll, List.foldl_cons]
    by_cases huv : u = v
    · subst huv
      apply respondAll_cut
      by_cases hm : u ∈ st.actives
      · simp only [hm, if_true]
        refine ⟨?_, ?_⟩
        · rw [terminate_actives]; simp [List.mem_filter]
        · rw [terminate_nsess]; simp
      · simp only [hm, if_false]; exact ⟨hm, hw hm⟩
    · have : u ∈ rest := by
        rcases List.mem_cons.1 hu with h | h
        · exact absurd h huv
        · exact h
      exact ih this _ (respond_step_wf st u v hw)

/-- **C16 cut-off**: `commitUpdate`'s second half on the oldest snapshot (the `UploadStatus` transaction, then the
response loop): every user of that snapshot whose credit the transaction left at or below zero (either direction),
or whose expiry has passed, or who has no record any more, ends up not active and with all sessions closed. -/
theorem c16_cutoff (s : St) (now : Int) (keys : List U) (f : Fn) (rest : List (List U × Fn))
    (hin : s.inflight = (keys, f) :: rest) (u : U) (hu : u ∈ keys) (hw : Wf s u)
    (hv : (step s (.upload now)).present u = false ∨ (step s (.upload now)).stored (u, false) ≤ 0 ∨
          (step s (.upload now)).stored (u, true) ≤ 0 ∨ (step s (.upload now)).expiry u < now) :
    CutOff (commitOldest s now) u := by
  unfold commitOldest
  simp only [hin]
  apply respondAll_mem
  · exact List.mem_filter.2 ⟨hu, (gen_verdict _ _ _).2 hv⟩
  · intro hn
    have ha : (step s (.upload now)).actives = s.actives := by simp only [step, hin]
    have hs : (step s (.upload now)).nsess = s.nsess := by simp only [step, hin]
    rw [hs]; rw [ha] at hn; exact hw hn

/-- … and stays cut off: while the database keeps saying so, the user cannot be activated again -/
theorem c16_cutoff_stays (s : St) (u : U) (now : Int) (hn : u ∉ s.actives)
    (hv : s.present u = false ∨ s.stored (u, false) ≤ 0 ∨ s.stored (u, true) ≤ 0 ∨ s.expiry u < now) :
    step s (.activate u now) = s := by
  have : authOk s u now = false := by
    cases h : authOk s u now with
    | false => rfl
    | true =>
      -- activation needs the record and every test of `AuthenticateUser` to pass
      unfold authOk Gen.Panel.authenticateChecks at h
      simp only [Bool.and_eq_true, Option.isNone_iff_eq_none, List.find?_eq_none, List.forall_mem_cons, List.not_mem_nil,
        false_imp_iff, implies_true, and_true, Bool.not_eq_true, decide_eq_false_iff_not] at h
      rw [h.1] at hv
      simp only [Bool.true_eq_false, false_or] at hv
      omega
  simp only [step, hn, if_false, this]
  rfl

/-- non-vacuity of the cut-off: a user driven to zero download credit with two open sessions -/
example :
    let s := run init [.put 1 100 40 50, .activate 1 10, .openSess 1, .openSess 1, .traffic 1 true 40, .collectAll, .snapshot]
    (s.nsess 1, s.actives, (commitOldest s 11).nsess 1, (commitOldest s 11).actives, (commitOldest s 11).stored (1, true)) =
      (2, [1], 0, [], 0) := by decide

end C16

#print axioms C16.c16_conservation
#print axioms C16.c16_at_most_once
#print axioms C16.c16_exact_after_round
#print axioms C16.c16_cutoff
