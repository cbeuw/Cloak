import CloakModel.Props.C19

/-! # C19 — the bucket's `int64` arithmetic is the model's unbounded arithmetic (for the rates `MakeValve` builds)

The bucket model `TB.*` computes in `Int`; `juju/ratelimit` computes in `int64`. The two agree exactly as long as
every intermediate value is in `int64` range, and for the refill of `adjustavailableTokens`
(`availableTokens += (tick - lastTick) * quantum`) that is NOT automatic: the product is about
`rate × seconds since the bucket was last looked at`. With a configured rate of 10¹⁵ B/s ("no limit") it passes
2⁶³ after a few idle hours, with a rate near `MaxInt64` the sum wraps at the first refill, the balance turns
hugely negative and the next `Wait` holds the user for up to hours — the red team's huge-rate finding
(`c19_refill_overflow_witness`, `c19_refill_sum_overflow_witness`; ./check C19, scenario c19huge.go).

Since /repo's fix `MakeValve` replaces each rate by `min(rate, maxValveRate)` (`Gen.Valve.valveRateCap`, read from
the source), and `c19_refill_fits` shows: for every bucket so made — capacity ≤ the cap, the constructor's promise
`quantum·10⁹/fillInterval ≤ 1.01·rate` (checked for every rate the harness builds: `rateOK`) — every intermediate
value of the refill is in `int64` range for 2⁵⁷ ns (four and a half years) after the bucket was made, so there the
`int64` computation IS the `Int` computation of the model.

`c19_wait_fits` does the same for the wait computation (`endTick * fillInterval`), as long as the wait is below 2⁶¹ ns.
Not covered (stated, not proved): waits beyond that (a debt of 2³¹ bytes at 1 B/s is a 68-year wait); buckets older
than 2⁵⁷ ns; `availableTokens - count` for a balance below `-2⁶²`. -/

namespace C19

/-- the value is representable as a Go `int64` -/
def fits (x : Int) : Prop := -2^63 ≤ x ∧ x < 2^63
instance (x : Int) : Decidable (fits x) := by unfold fits; infer_instance

/-- two's-complement result of an `int64` operation whose mathematical result is `x` -/
def wrap (x : Int) : Int := (x + 2^63) % 2^64 - 2^63

theorem wrap_of_fits (x : Int) (h : fits x) : wrap x = x := by
  unfold fits at h; unfold wrap; omega

/-- the source clamps both rates to one positive constant of at most 2³⁴ before the buckets are made -/
theorem gen_rate_cap : 0 < Gen.Valve.valveRateCap ∧ Gen.Valve.valveRateCap ≤ 2^34 := by decide

/-- the current tick is not negative, its start is not after `now`, and (a tick lasting at least 1 ns) its number
is at most `now` -/
theorem gen_tick_bounds (now fi : Int) (hfi : 0 < fi) (hnow0 : 0 ≤ now) :
    0 ≤ Gen.Valve.tbCurrentTick now fi ∧ Gen.Valve.tbCurrentTick now fi * fi ≤ now ∧
    Gen.Valve.tbCurrentTick now fi ≤ now := by
  rw [gen_currentTick now fi hnow0]
  exact ⟨Int.ediv_nonneg hnow0 (Int.le_of_lt hfi), Int.ediv_mul_le now (Int.ne_of_gt hfi), Int.ediv_le_self _ hnow0⟩

/-- `tick·q·10¹¹ ≤ tick·101·cap·fi ≤ 101·cap·now ≤ 101·2³⁴·2⁵⁷ < 2⁶²·10¹¹` -/
theorem tick_q_bound (cap q fi now tick : Int) (hcap0 : 0 < cap) (hcap : cap ≤ 2^34)
    (hrate : q * 100000000000 ≤ 101 * cap * fi) (htick0 : 0 ≤ tick) (htick : tick * fi ≤ now) (hnow0 : 0 ≤ now)
    (hnow : now ≤ 2^57) : tick * q ≤ 2^62 := by
  have h1 : tick * q * 100000000000 ≤ 101 * cap * (tick * fi) := by
    have := Int.mul_le_mul_of_nonneg_left hrate htick0
    rwa [← Int.mul_assoc, Int.mul_left_comm] at this
  have h2 : 101 * cap * (tick * fi) ≤ 101 * cap * now := Int.mul_le_mul_of_nonneg_left htick (by omega)
  have h3 : 101 * cap * now ≤ 101 * 2^34 * 2^57 := Int.mul_le_mul (by omega) hnow hnow0 (by decide)
  omega

/-- **C19 (exactness of the refill).** For a bucket made by the repaired `MakeValve` (capacity `cap` at most the cap
read from the source, real rate at most 1 % above it), looked at `now ≤ 2⁵⁷` ns after it was made, with a balance
between `-2⁶²` and the capacity and a last tick not in the future: the difference of ticks, the product with the
quantum and the new balance are all `int64` values — Go's computation does not wrap and equals the model's. -/
theorem c19_refill_fits (cap q fi now : Int) (b : TB.B) (hq : 0 < q) (hfi : 0 < fi) (hcap0 : 0 < cap)
    (hcap : cap ≤ Gen.Valve.valveRateCap) (hrate : q * 100000000000 ≤ 101 * cap * fi)
    (hnow0 : 0 ≤ now) (hnow : now ≤ 2^57) (hlast0 : 0 ≤ b.last) (hlast : b.last ≤ Gen.Valve.tbCurrentTick now fi)
    (hlo : -2^62 ≤ b.avail) (hhi : b.avail ≤ cap) :
    let tick := Gen.Valve.tbCurrentTick now fi
    fits tick ∧ fits (tick - b.last) ∧ fits (Gen.Valve.tbRefillAdd tick b.last q) ∧
    fits (b.avail + Gen.Valve.tbRefillAdd tick b.last q) ∧
    wrap (b.avail + wrap (wrap (tick - b.last) * q)) = b.avail + Gen.Valve.tbRefillAdd tick b.last q := by
  obtain ⟨htick0, htfi, hticklt⟩ := gen_tick_bounds now fi hfi hnow0
  dsimp only
  generalize Gen.Valve.tbCurrentTick now fi = tick at *
  have hcap34 : cap ≤ 2^34 := Int.le_trans hcap gen_rate_cap.2
  have hB := tick_q_bound cap q fi now tick hcap0 hcap34 hrate htick0 htfi hnow0 hnow
  have hdle : (tick - b.last) * q ≤ tick * q := Int.mul_le_mul_of_nonneg_right (by omega) (Int.le_of_lt hq)
  have hdq0 : 0 ≤ (tick - b.last) * q := Int.mul_nonneg (Int.sub_nonneg.2 hlast) (Int.le_of_lt hq)
  have f2 : fits (tick - b.last) := by unfold fits; omega
  have f3 : fits ((tick - b.last) * q) := by unfold fits; omega
  have f4 : fits (b.avail + (tick - b.last) * q) := by unfold fits; omega
  rw [gen_refill, wrap_of_fits _ f2, wrap_of_fits _ f3, wrap_of_fits _ f4]
  exact ⟨by unfold fits; omega, f2, f3, f4, rfl⟩

/-- **C19 (exactness of the wait computation).** A caller left with the negative balance `a` (its debt is `-a`
tokens) is told to wait until tick `tick + ⌈-a/q⌉`, i.e. `endTick * fillInterval` ns after the bucket was made. As long as
`debt × fillInterval ≤ 2⁶¹` (for a quantum of 1 that product IS the wait in ns: 73 years), `now ≤ 2⁵⁷`, and the quantum
is below the constructor's own limit `2⁵⁰`, every intermediate value — `-a + q - 1`, the end tick, the end time, the wait —
is an `int64` and non-negative where Go's arithmetic assumes so: the wait Go computes is the model's. -/
theorem c19_wait_fits (q fi now a : Int) (hq : 0 < q) (hq50 : q ≤ 2^50) (hfi : 0 < fi)
    (hnow0 : 0 ≤ now) (hnow : now ≤ 2^57) (ha : a < 0) (hdebt : (-a) * fi ≤ 2^61) :
    let tick := Gen.Valve.tbCurrentTick now fi
    let endTick := Gen.Valve.tbEndTick tick a q
    fits (-a + q - 1) ∧ fits endTick ∧ fits (Gen.Valve.tbEndTimeSinceStart endTick fi) ∧
    fits (Gen.Valve.tbEndTimeSinceStart endTick fi - now) ∧ tick ≤ endTick := by
  obtain ⟨htick0, htfi, hticklt⟩ := gen_tick_bounds now fi hfi hnow0
  -- 0 < ⌈-a/q⌉ ≤ -a ≤ (-a)·fi
  obtain ⟨hc0, hcle⟩ := TBS.ceilDiv_bounds (-a) q (by omega) hq
  have hdebt1 : (-a) * 1 ≤ (-a) * fi := Int.mul_le_mul_of_nonneg_left (by omega) (by omega)
  have hcfi : TBS.ceilDiv (-a) q * fi ≤ (-a) * fi := Int.mul_le_mul_of_nonneg_right hcle (Int.le_of_lt hfi)
  have hcfi0 : 0 ≤ TBS.ceilDiv (-a) q * fi := Int.mul_nonneg (Int.le_of_lt hc0) (Int.le_of_lt hfi)
  dsimp only
  generalize Gen.Valve.tbCurrentTick now fi = tick at *
  have htfi0 : 0 ≤ tick * fi := Int.mul_nonneg htick0 (Int.le_of_lt hfi)
  rw [gen_endTime, gen_endTick tick a q ha hq, Int.add_mul]
  unfold fits
  omega

/-- what `MakeValve` built for 10¹⁵ B/s before the fix (quantum 10017324, fillInterval 10 ns — read from the real
bucket by the harness): one read, three idle hours, and the product of the refill is beyond `int64` -/
theorem c19_refill_overflow_witness :
    let q : Int := 10017324; let fi : Int := 10
    let last := Gen.Valve.tbCurrentTick 2500000000 fi
    let tick := Gen.Valve.tbCurrentTick (2500000000 + 3 * 3600 * 1000000000) fi
    ¬ fits (Gen.Valve.tbRefillAdd tick last q) ∧ wrap (Gen.Valve.tbRefillAdd tick last q) < 0 := by
  decide

/-- rate `MaxInt64` before the fix (capacity 2⁶³-1): after the first record the balance is 16 KiB below the capacity, and
the next refill, one millisecond later, already wraps the SUM -/
theorem c19_refill_sum_overflow_witness :
    let cap : Int := 2^63 - 1; let q : Int := 9223372037; let fi : Int := 1
    let avail := cap - 16384
    ¬ fits (avail + Gen.Valve.tbRefillAdd (Gen.Valve.tbCurrentTick 2000000 fi) (Gen.Valve.tbCurrentTick 1000000 fi) q) := by
  decide

/-- non-vacuity: the bucket the repaired `MakeValve` builds for any rate ≥ 2³⁴ (quantum 86, fillInterval 5 ns:
17.2·10⁹ B/s, within 1 % of 2³⁴; `C19.search`), one year after it was made, meets the hypotheses of `c19_refill_fits` -/
example : let cap : Int := 2^34; let q : Int := 86; let fi : Int := 5; let now : Int := 365 * 86400 * 1000000000
    0 < q ∧ 0 < fi ∧ 0 < cap ∧ cap ≤ Gen.Valve.valveRateCap ∧ q * 100000000000 ≤ 101 * cap * fi ∧ 0 ≤ now ∧ now ≤ 2^57 := by
  decide

end C19
