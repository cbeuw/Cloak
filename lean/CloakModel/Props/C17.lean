import CloakModel.Lemmas.LocksCore
import CloakModel.Lemmas.PanelInv

/-! # C17 — User bookkeeping never deadlocks and never loses track of a live session

Part 1 (no deadlock): the generic theorem `Locks.locks_rank_ordered_no_deadlock` instantiated with the lock
programs the extractor read from the CURRENT tree (`Gen.Panel.lockPrograms`, every control-flow path of every
bookkeeping operation, callees inlined) and the order Q < A < S. Rank-orderedness is decided on whatever was
extracted — not compared with an expected listing.

Part 2 (single record): every reachable state of the session-bookkeeping step model (`Model/Panel.lean`, with
the repair facts of the CURRENT tree, `Panel.genCfg`) satisfies `Panel.SingleRecord`.

On the pinned tree both fail (DESIGN §8 rows 6, 7): `gen_rank_ordered` and `gen_orphan_repair` do not hold of
its facts. The explicit pinned values are refuted below (`pinned_*`, `c17_orphan_witness_pinned`), and the harness
replays those witnesses on the real code. -/

namespace C17
open Locks

/-! ## Part 1 — lock order -/

/-- the bookkeeping structs have exactly the three mutexes the rank speaks about -/
theorem gen_lock_classes :
    Gen.Panel.lockClasses = [("activeUsersM", 1), ("sessionsM", 2), ("usageUpdateQueueM", 0)] := rfl

set_option maxRecDepth 100000 in
/-- OBLIGATION: every extracted path is well-bracketed and acquires in the order Q < A < S -/
theorem gen_rank_ordered : genPrograms.all (okb rankQAS []) = true := by decide

set_option maxRecDepth 100000 in
/-- the extraction is not empty: the upload round, the commit, the admission and the closure paths are there
and do take locks -/
theorem gen_programs_nontrivial :
    (genProgramsOf "updateUsageQueue").any (fun p => decide (p.length ≥ 4)) = true ∧
    (genProgramsOf "commitUpdate").any (fun p => decide (p.length ≥ 8)) = true ∧
    (genProgramsOf "dispatchConnection").any (fun p => decide (p.length ≥ 4)) = true ∧
    (genProgramsOf "CloseSession").any (fun p => decide (p.length ≥ 6)) = true ∧
    (genProgramsOf "uploadRound").any (fun p => decide (p.length ≥ 12)) = true ∧
    (genProgramsOf "GetUser") ≠ [] ∧ (genProgramsOf "GetSession") ≠ [] ∧ (genProgramsOf "TerminateActiveUser") ≠ [] := by
  decide

theorem rank_bound : ∀ l, rankQAS l < 3 := by intro l; simp only [rankQAS]; omega

/-- **C17 (1)**: any number of concurrent bookkeeping operations — each an extracted path working on the panel's
two locks and on the `sessionsM` of some record `u` — under any schedule and any blocking discipline in which a
refused acquisition has a holder: no reachable state is deadlocked. (Assumption, stated in the evidence:
whatever else is done while holding a lock — bbolt calls, `sesh.Close()` — returns; a loop body is counted once.) -/
theorem c17_no_deadlock (D : Discipline) (s0 : List Thread)
    (h0 : ∀ t ∈ s0, t.held = [] ∧ ∃ p ∈ genPrograms, ∃ u, t.prog = p.map (Instr.map (instOf u)))
    (s : List Thread) (hr : Reach D s0 s) : ¬ Deadlocked D s := by
  refine renamed_no_deadlock D rankQAS 3 rank_bound s0 (fun t ht => ?_) s hr
  obtain ⟨hh, p, hp, u, hprog⟩ := h0 t ht
  exact ⟨hh, p, instOf u, ok_of_okb _ _ _ (List.all_eq_true.1 gen_rank_ordered p hp), instOf_inj u, rankQAS_instOf u, hprog⟩

/-- non-vacuity: two overlapping upload rounds and an admission are an admissible initial state -/
example : ∃ p ∈ genPrograms, p.length ≥ 12 := by
  have := gen_programs_nontrivial.2.2.2.2.1
  rw [List.any_eq_true] at this
  obtain ⟨p, hp, hl⟩ := this
  refine ⟨p, ?_, by simpa using hl⟩
  unfold genProgramsOf at hp
  unfold genPrograms
  rw [List.mem_flatMap] at hp ⊢
  obtain ⟨e, he, hpe⟩ := hp
  exact ⟨e, (List.mem_filter.1 he).1, hpe⟩

/-! ### the pinned tree: `updateUsageQueue` takes A then Q, `commitUpdate` holds Q and takes A.RLock -/

def updateUsageQueue_pinned : List Instr := [.acq A, .acq Q, .rel A, .rel Q]
def commitUpdate_pinned : List Instr := [.acq Q, .acq A, .rel A, .acq S, .rel S, .acq A, .rel A, .rel Q]
def updateUsageQueue_repaired : List Instr := [.acq Q, .acq A, .rel A, .rel Q]

theorem pinned_not_ordered : okb rankQAS [] updateUsageQueue_pinned = false := by decide
theorem repaired_ordered : okb rankQAS [] updateUsageQueue_repaired = true ∧ okb rankQAS [] commitUpdate_pinned = true := by decide

/-- no rank whatsoever orders the two pinned programs -/
theorem pinned_not_rank_orderable (rank : Nat → Nat) :
    ¬ (ok rank [] updateUsageQueue_pinned ∧ ok rank [] commitUpdate_pinned) := by
  intro ⟨h1, h2⟩
  simp only [updateUsageQueue_pinned, commitUpdate_pinned, ok] at h1 h2
  have a := h1.2.1 A (by simp)
  have b := h2.2.1 Q (by simp)
  omega

def pinnedStart : List Thread := [⟨[], updateUsageQueue_pinned⟩, ⟨[], commitUpdate_pinned⟩]
def pinnedStuck : List Thread :=
  [⟨[A], [.acq Q, .rel A, .rel Q]⟩, ⟨[Q], [.acq A, .rel A, .acq S, .rel S, .acq A, .rel A, .rel Q]⟩]

/-- two overlapping upload rounds of the pinned tree reach a deadlocked state (the schedule the harness replays:
round 1 takes A and is parked, round 2's commit takes Q and waits for A, round 1 waits for Q) -/
theorem pinned_deadlock_reachable : Reach mutexD pinnedStart pinnedStuck ∧ Deadlocked mutexD pinnedStuck :=
  ⟨.step (.step .refl (step1_moved (s' := (Exec.step1 pinnedStart 0).1) (i := 0) (by decide)))
    (step1_moved (i := 1) (by decide)), deadlockedB_sound (by decide)⟩

/-- the executable machine the driver runs agrees on that state -/
theorem pinned_exec_deadlock :
    Exec.deadlockedB (Exec.settle 10 pinnedStuck) = true ∧
    (Exec.adv 1 pinnedStart 0).1 = pinnedStart.set 0 ⟨[A], [.acq Q, .rel A, .rel Q]⟩ := by decide

/-! ## Part 2 — one record per user, no session outside it -/

/-- full statement, for a given set of repair facts -/
def c17_single_record_full (cfg : Panel.Cfg) : Prop :=
  ∀ evs : List Panel.Ev, Panel.SingleRecord (Panel.run cfg Panel.init evs)

/-- OBLIGATION: the tree has the repair — `GetSession` refuses on a retired record, `TerminateActiveUser` retires
the record under `sessionsM` before it closes the sessions, closes before it deletes, and deletes only its own entry -/
theorem gen_orphan_repair :
    Panel.genCfg = Panel.orphanRepaired Gen.Panel.refusedCleanupClosesOwnId Gen.Panel.refusedCleanupRetires ∧
    Gen.Panel.terminateClosesBeforeDelete = true := ⟨rfl, rfl⟩

/-- the atomic steps of the model are the critical sections of the code; the admission is two such steps -/
theorem gen_structure :
    Gen.Panel.getSessionUnderLock = true ∧ Gen.Panel.closeSessionUnderLock = true ∧
    Gen.Panel.closeAllSessionsUnderLock = true ∧ Gen.Panel.getUserUnderLock = true ∧
    Gen.Panel.getBypassUserUnderLock = true ∧ Gen.Panel.admissionTwoSteps = true := by and_intros <;> rfl

/-- **C17 (2)**: for every schedule of admissions (user lookup and session creation as two steps), session
closures, clean-ups of refused connections (whichever of the two the tree has: C15), terminations (close-all then
delete, from whichever caller) and admin changes: each live session is in
the record `activeUsers` holds for its uid; hence one record per uid, and no session in a terminated record.
Holds in EVERY reachable state, quiescent or not. -/
theorem c17_single_record : c17_single_record_full Panel.genCfg := by
  intro evs
  rw [gen_orphan_repair.1]
  exact Panel.inv_single (Panel.inv_run evs Panel.inv_init)

def uinfo : Panel.Info := ⟨2, 1000000, 1000000, 5000, 5000, 100⟩

/-- the invariant does not depend on which clean-up a refused connection performs (`CloseSession(own id)` or the
repaired "terminate if empty") -/
theorem c17_single_record_either (names retires : Bool) : c17_single_record_full (Panel.orphanRepaired names retires) :=
  fun evs => Panel.inv_single (Panel.inv_run evs Panel.inv_init)

/-- non-vacuity: a run with two users, joins, a refused third session and its clean-up, a last-session closure and a
re-admission -/
example :
    let evs : List Panel.Ev := [.put 7 uinfo, .put 8 uinfo, .getUser 7 false 10, .getUser 8 false 10,
      .getSession 0 1 100 10, .getSession 0 1 101 10, .getSession 0 2 102 10, .getSession 0 3 103 10,
      .refusedCleanup 0 3, .getSession 1 1 104 10, .closeLocked 1 1, .retire 1, .closeAll 1, .deleteRec 1, .getUser 8 false 11, .getSession 2 5 105 11]
    let s := Panel.run Panel.repairedCfg Panel.init evs
    s.active = [(8, 2), (7, 0)] ∧ (s.recs.map (·.sessions.length)) = [2, 0, 1] ∧ Panel.singleRecordB s = true := by
  decide

/-- the admission-vs-last-close schedule (5 steps after the set-up): the dispatcher resolves the record, the
user's last session closes and the record is terminated, then the dispatcher creates its session in it -/
def orphanSchedule : List Panel.Ev :=
  [.put 7 uinfo, .getUser 7 false 10, .getSession 0 1 100 10,
   .getUser 7 false 10,            -- second connection: dispatcher resolves record 0 …
   .closeLocked 0 1,               -- … the last session closes (remaining = 0) …
   .retire 0, .closeAll 0, .deleteRec 0,      -- … TerminateActiveUser
   .getSession 0 2 200 10]         -- … and the dispatcher creates session 2 inside the removed record

/-- WITNESS (pinned facts): the orphan session -/
theorem c17_orphan_witness_pinned : ¬ c17_single_record_full Panel.pinnedCfg := by
  intro h
  have := Panel.single_of_B (h orphanSchedule)
  revert this
  decide

/-- the same schedule on the repaired design: the late `GetSession` is refused (`retired`) -/
theorem c17_orphan_schedule_repaired :
    Panel.singleRecordB (Panel.run Panel.repairedCfg Panel.init orphanSchedule) = true ∧
    (Panel.getSession Panel.repairedCfg (Panel.run Panel.repairedCfg Panel.init orphanSchedule.dropLast) 0 2 200 10).2
      = Panel.Res.retired := by decide

/-- why the guarded delete is part of the repair: two terminations of record 0 overlap (last-session closure and
a TERMINATE verdict), the user reconnects in between, the second delete removes the NEW record's entry -/
theorem c17_unguarded_delete_witness : ¬ c17_single_record_full ⟨true, true, false, false, true⟩ := by
  intro h
  have := Panel.single_of_B (h [.put 7 uinfo, .getUser 7 false 10, .getSession 0 1 100 10, .closeLocked 0 1,
    .retire 0, .retire 0, .closeAll 0, .closeAll 0, .deleteRec 0, .getUser 7 false 10, .getSession 1 1 300 10, .deleteRec 0])
  revert this
  decide

/-! ### a termination decided before a session existed never closes it (C01 "keeps working", C17)

`CloseSession` decides "no session left" in its locked part.  Before /repo's fix the record was retired only later, by
`TerminateActiveUser`, after the lock had been released: a connection dispatched in between got a FRESH session in the
record — healthy connection, open stream, data — which the termination then closed with "no session left" (found by the
second red-team round; harness `c01stale.go`, schedule point `ActiveUser.CloseSession:beforeTerminate`).  Now the decision
and the retirement are one step of the model (`Gen.Panel.closeSessionRetiresWhenEmpty`), and every admission that comes
after the decision is told to look the user up again. -/

/-- the admission that finds a retired record does not wait for something that may never come: either it waits for
nothing, or for a channel that every record is made with and that the termination always closes, after the delete -/
theorem gen_retry_wait : Gen.Panel.retryWaitIsSignalled = true := rfl

theorem gen_close_retires : Gen.Panel.closeSessionRetiresWhenEmpty = true := rfl

theorem c17_close_decision_blocks_admission (cfg : Panel.Cfg) (hc : cfg.checksRetired = true) (s : Panel.St) (rid sid : Nat)
    (h : (Panel.closeLocked s rid sid).2 = some 0) (sid' key : Nat) (now : Int) :
    (Panel.getSession cfg (Panel.closeLocked s rid sid).1 rid sid' key now).2 = .retired := by
  unfold Panel.closeLocked at h ⊢
  cases hr : s.recs[rid]? with
  | none => rw [hr] at h; simp at h
  | some r =>
    rw [hr] at h
    simp only [Option.some.injEq] at h
    have hemp : (r.sessions.filter (fun e => e.1 != sid)).isEmpty = true := by
      cases hf : r.sessions.filter (fun e => e.1 != sid) with
      | nil => rfl
      | cons a b => rw [hf] at h; simp at h
    simp only
    unfold Panel.getSession
    simp only
    rw [Panel.getElem?_set_eq' _ _ _ _ hr]
    simp [hc, gen_close_retires, hemp]

/-- the old shape, explicitly: with the retirement left to `TerminateActiveUser` the admission in the gap CREATES a
session in the record whose termination has been decided, and the termination closes it -/
def staleS0 : Panel.St := Panel.run Panel.repairedCfg Panel.init [.put 7 uinfo, .getUser 7 false 10, .getSession 0 1 100 10]
/-- the locked part of `CloseSession` WITHOUT the retirement: session 1 removed, nothing else -/
def staleS1 : Panel.St := { staleS0 with recs := staleS0.recs.map (fun r => { r with sessions := r.sessions.filter (fun e => e.1 != 1) }) }

theorem c17_stale_termination_witness :
    (Panel.getSession Panel.repairedCfg staleS1 0 2 200 10).2 = .created 200 ∧
    ((Panel.run Panel.repairedCfg (Panel.getSession Panel.repairedCfg staleS1 0 2 200 10).1 [.retire 0, .closeAll 0]).recs.map (·.sessions)) = [[]] := by
  decide

end C17

#print axioms C17.c17_no_deadlock
#print axioms C17.c17_close_decision_blocks_admission
#print axioms C17.c17_single_record
#print axioms C17.pinned_deadlock_reachable
