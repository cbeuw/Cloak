import CloakModel.Model.Sender
import CloakModel.Lemmas.SenderCore
import CloakModel.Lemmas.SenderOrder
import CloakModel.Lemmas.SenderClose

/-! # C13 — Each stream's frames carry unique, gap-free sequence numbers in write order

(1) what the extractor read from `stream.go`/`session.go` is what the proof needs (the obligations
that break when a send site leaves the mutex or `Seq++` moves); (2) every `Write`/`ReadFrom`/`Close`
program built from those facts is a sequence of critical sections; (3) for ANY number of concurrent
calls and ANY schedule: numbers consumed are `0,1,2,…` each once in critical-section order, the wire
carries a subsequence (failed sends skip, never reuse), a call that starts after another returned is
numbered above it (Close after completed writes), header nonces `(stream id, seq)` never repeat. -/

namespace C13
open SN

/-! ## 1. Extracted facts -/

/-- the three call chains into `obfuscateAndSend` are under `writingM`, and `Seq++` directly follows
the encode (before the error return and before the send) -/
theorem gen_shape : SN.genShape = ⟨true, true, true, true, true⟩ := rfl

/-- the remaining structural facts: only the three modelled functions reach `obfuscateAndSend`;
`closeStream` sends only when active and its only non-passive call site is `Stream.Close`;
`writingFrame.Seq` is written by exactly one statement in the package (the `Seq++`), starts at 0 and
`obfuscate` does not modify the frame; `writingFrame.Closing` starts as `closingNothing`, is set once
(to `closingStream`, in `closeStream`) and never reset; stream ids come from one atomic counter that nothing else
touches; the session-closing notice is built in one place, after the session CAS. -/
theorem gen_structure :
    Gen.Sender.sendCallerCount = 3 ∧ Gen.Sender.sendCallersKnown = true ∧
    Gen.Sender.closeSendOnlyIfActive = true ∧ Gen.Sender.activeCloseSites = 1 ∧
    Gen.Sender.seqIncrCount = 1 ∧ Gen.Sender.seqWriteSites = 1 ∧ Gen.Sender.obfuscateWritesFrame = 0 ∧
    Gen.Sender.seqInit = 0 ∧
    Gen.Sender.closingWriteSites = 1 ∧ Gen.Sender.closingSetToStream = 1 ∧ Gen.Sender.closingInit = Gen.Sender.closingNothing ∧
    Gen.Sender.streamIdAtomic = true ∧ Gen.Sender.nextStreamIDUses = 1 ∧
    Gen.Sender.sessCloseOnce = true ∧ Gen.Sender.sessCloseSites = 1 ∧
    Gen.Sender.closingNothing = 0 ∧ Gen.Sender.closingStream = 1 ∧ Gen.Sender.closingSession = 2 ∧
    Gen.Sender.sessCloseClosing = Gen.Sender.closingSession := by and_intros <;> rfl

/-- allocator start and the reserved pair of the session-closing notice -/
theorem gen_ids :
    Gen.Sender.nextStreamIDInit = 1 ∧ Gen.Sender.sessCloseStreamID = 2^32 - 1 ∧ Gen.Sender.sessCloseSeq = 0 := ⟨rfl, rfl, rfl⟩

/-! ## 2. The programs of the three calls are sequences of critical sections -/

/-- blocks that each take the phase `ph` back to `ph` do so together -/
theorem advs_flatMap {α : Type} {f : α → List Instr} {ph : Ph} (h : ∀ x, advs ph (f x) = some ph) (l : List α) :
    advs ph (l.flatMap f) = some ph := by
  induction l with
  | nil => rfl
  | cons x xs ih => rw [List.flatMap_cons, advs_append, h x]; exact ih

/-- **the tie**: with the facts extracted from the source, every call is well-formed; if a send site
were not under the mutex this is where the proof breaks -/
theorem call_wf (c : Call) : wf c.prog := by
  unfold Call.prog
  rw [gen_shape]
  cases c with
  | write fs =>
    have h := advs_flatMap (ph := ⟨true, false, false⟩) (f := fun x : Nat × Res => frameI true false x.1 x.2)
      (fun x => rfl) fs
    simp only [Call.progW, sect, wf, if_true, advs, adv, idle, List.cons_append]
    rw [advs_append, h]
    rfl
  | readFrom cs => exact advs_flatMap (fun x => rfl) cs
  | close pl r => rfl

/-! ## 3. The property -/

theorem calls_inv (calls : List Call) : Inv (init (calls.map Call.prog)) := by
  apply init_inv
  intro p hp
  simp only [List.mem_map] at hp
  obtain ⟨c, _, rfl⟩ := hp
  exact call_wf c

/-- **C13 (gap-free).** Any number of concurrent `Write` (any number of frames each), `ReadFrom`
(any number of chunks) and `Close` calls on one stream, any outcome of every send (ok / connection
error / encode error), any schedule: the numbers consumed are `0,1,…,k−1`, each exactly once, in the
order of the `Seq++` steps (= order of the critical sections); `writingFrame.Seq` equals the count;
the frames that reached a connection are a subsequence — a failed send skips its number, nothing is
reused. -/
theorem c13_gapfree (calls : List Call) (sched : List Nat) :
    let s := runSched (init (calls.map Call.prog)) sched
    s.enc.map (·.seq) = List.range s.enc.length ∧ s.seq = s.enc.length ∧ s.wire.Sublist s.enc := by
  have h := run_inv sched _ (calls_inv calls)
  exact ⟨h.gapfree, h.seqLen, h.wire⟩

/-- consequence: on the wire the numbers are strictly increasing (so pairwise distinct) -/
theorem c13_wire_increasing (calls : List Call) (sched : List Nat) :
    let s := runSched (init (calls.map Call.prog)) sched
    (s.wire.map (·.seq)).Pairwise (· < ·) := by
  intro s
  have h := c13_gapfree calls sched
  have hsub : (s.wire.map (·.seq)).Sublist (s.enc.map (·.seq)) := h.2.2.map _
  rw [h.1] at hsub
  exact List.Pairwise.sublist hsub List.pairwise_lt_range

/-- only the holder of `writingM` consumes a number: between a call's `lock` and `unlock` every
frame appended to the log is its own (frames of one `Write` are contiguous) -/
theorem c13_section_exclusive (s s' : State) (u : Nat) (h : Inv s) (hs : step s u = some s') :
    s'.enc = s.enc ∨ (s.lock = some u ∧ ∃ f, s'.enc = s.enc ++ [f] ∧ f.owner = u ∧ f.seq = s.enc.length) := by
  obtain ⟨th, hth, hst⟩ := step_cases hs
  have htok := h.thr u th hth
  cases hst with
  | @inc p f hp hcur hpend =>
    obtain ⟨hown, hseq, _⟩ := htok.2 f hcur
    exact .inr ⟨htok.inside hp (by simp) (by simp), f, rfl, hown, by rw [hseq hpend, h.seqLen]⟩
  | _ => exact .inl rfl

/-- a call that has returned is `Done` -/
def Done (s : State) (w : Nat) : Prop := ∃ th, s.thr[w]? = some th ∧ th.prog = []

theorem step_done (s s' : State) (u w : Nat) (hs : step s u = some s') (hd : Done s w) : Done s' w ∧ u ≠ w := by
  obtain ⟨tw, htw, hpw⟩ := hd
  obtain ⟨th, hth, hst⟩ := step_cases hs
  obtain ⟨hne, th', hthr⟩ := hst.thr
  have huw : u ≠ w := by
    rintro rfl
    rw [htw] at hth; cases hth
    exact hne hpw
  exact ⟨⟨tw, by rw [hthr, List.getElem?_set_ne huw]; exact htw, hpw⟩, huw⟩

/-- after call `w` returned, whatever runs appends only frames of other calls, numbered from the
current count upward -/
theorem run_after_done (w : Nat) (sched : List Nat) (s : State) (hinv : Inv s) (hd : Done s w) :
    ∃ ext, (runSched s sched).enc = s.enc ++ ext ∧ ∀ g ∈ ext, g.owner ≠ w ∧ s.enc.length ≤ g.seq := by
  refine (run_induct (P := fun s' => Done s' w ∧
    ∃ ext, s'.enc = s.enc ++ ext ∧ ∀ g ∈ ext, g.owner ≠ w ∧ s.enc.length ≤ g.seq) ?_ sched s hinv
    ⟨hd, [], by simp, by simp⟩).2.2
  rintro s1 s2 t h1 ⟨hd1, ext, he, hall⟩ hs
  obtain ⟨hd2, hne⟩ := step_done s1 s2 t w hs hd1
  refine ⟨hd2, ?_⟩
  rcases c13_section_exclusive s1 s2 t h1 hs with hsame | ⟨_, f, hf, hown, hseq⟩
  · exact ⟨ext, hsame ▸ he, hall⟩
  · refine ⟨ext ++ [f], by rw [hf, he, List.append_assoc], ?_⟩
    intro g hg
    rcases List.mem_append.1 hg with hg | hg
    · exact hall g hg
    · simp at hg; subst hg
      exact ⟨hown ▸ hne, by rw [hseq, he]; simp⟩

/-- **C13 (order).** Let call `w` have returned (after any run of any calls), and let another call
`c` — in particular `Close` — be made only then.  Whatever happens afterwards, every frame of `w` is
numbered below every frame of `c`: a close is numbered after every frame of the writes that
completed before it.  (Together with `c13_gapfree` — log order = number order — and
`c13_section_exclusive` — a call's frames are appended in program order while it holds the mutex —
this is the "data in the order the writes were accepted" clause.) -/
theorem c13_order (calls : List Call) (sched1 sched2 : List Nat) (w : Nat) (c : Call) :
    let s1 := runSched (init (calls.map Call.prog)) sched1
    Done s1 w →
    let s2 := runSched (spawn s1 c.prog) sched2
    ∀ f ∈ s2.enc, ∀ g ∈ s2.enc, f.owner = w → g.owner = s1.thr.length → f.seq < g.seq := by
  intro s1 hd s2 f hf g hg hfw hgc
  have hinv1 : Inv s1 := run_inv sched1 _ (calls_inv calls)
  have hinvS : Inv (spawn s1 c.prog) := spawn_inv s1 _ hinv1 (call_wf c)
  have hdS : Done (spawn s1 c.prog) w := by
    obtain ⟨tw, htw, hpw⟩ := hd
    have hlt : w < s1.thr.length := (List.getElem?_eq_some_iff.1 htw).1
    exact ⟨tw, by simp only [spawn]; rw [List.getElem?_append_left hlt]; exact htw, hpw⟩
  obtain ⟨ext, he, hall⟩ := run_after_done w sched2 _ hinvS hdS
  have he' : s2.enc = s1.enc ++ ext := he
  have hall' : ∀ g ∈ ext, g.owner ≠ w ∧ s1.enc.length ≤ g.seq := hall
  rw [he'] at hf hg
  have hf1 : f ∈ s1.enc := by
    rcases List.mem_append.1 hf with h | h
    · exact h
    · exact absurd hfw (hall' f h).1
  have hg2 : g ∈ ext := by
    rcases List.mem_append.1 hg with h | h
    · have := hinv1.owner g h; omega
    · exact h
  have hfs : f.seq < s1.enc.length := by
    have : f.seq ∈ s1.enc.map (·.seq) := List.mem_map.2 ⟨f, hf1, rfl⟩
    rw [hinv1.gapfree] at this
    simpa using this
  have := (hall' g hg2).2
  omega


/-! ### per-call order -/

/-- the payload chunks a call hands to the encoder, in call order -/
def callPls : Call → List Nat
  | .write fs => fs.map (·.1)
  | .readFrom cs => cs.map (·.1)
  | .close pl _ => [pl]

theorem plsOf_append (a b : List Instr) : plsOf (a ++ b) = plsOf a ++ plsOf b := by
  induction a with
  | nil => simp [plsOf]
  | cons i a ih => cases i <;> simp [plsOf, ih]

theorem plsOf_flatMap {α : Type} (f : α → List Instr) (l : List α) :
    plsOf (l.flatMap f) = l.flatMap (fun x => plsOf (f x)) := by
  induction l with
  | nil => rfl
  | cons x xs ih => rw [List.flatMap_cons, plsOf_append, ih, List.flatMap_cons]

theorem plsOf_prog (c : Call) : plsOf c.prog = callPls c := by
  unfold Call.prog
  rw [gen_shape]
  cases c <;>
    simp [Call.progW, sect, frameI, plsOf, plsOf_append, plsOf_flatMap, callPls, ← List.map_eq_flatMap]

/-- **C13 (order, per call).** In log order — which by `c13_gapfree` is number order — the payloads
logged for call `t` are a prefix of the chunks that call was given, in the order it was given them:
a call's bytes are never reordered, duplicated or mixed with foreign data; only a tail can be missing
(the call was refused, or returned early on a failed send).  With `c13_section_exclusive` (a `Write`
holds the mutex across all its frames) the data frames in number order are whole accepted writes,
each in its own order. -/
theorem c13_call_order (calls : List Call) (sched : List Nat) (t : Nat) (c : Call) (hc : calls[t]? = some c) :
    let s := runSched (init (calls.map Call.prog)) sched
    (s.enc.filter (fun f => decide (f.owner = t))).map (·.pl) <+: callPls c := by
  intro s
  obtain ⟨th, _, hpre⟩ := run_Q (calls.map Call.prog) sched _ (calls_inv calls) (init_Q _) t c.prog
    (by simp [List.getElem?_map, hc])
  rw [plsOf_prog, payloads, List.append_assoc] at hpre
  exact (List.prefix_append _ _).trans hpre

/-! ### nonces -/

/-- id of the `k`-th stream opened by `OpenStream` (`k = 0,1,…`): `atomic.AddUint32(&next, 1) - 1`,
32-bit wrap made explicit -/
def streamId (k : Nat) : Nat := (Gen.Sender.nextStreamIDInit.toNat + k) % 2^32

/-- the two header fields the cipher nonce is made of -/
def nonce (id : Nat) (f : Frame) : Nat × Nat := (id, f.seq % 2^64)

/-- the header fields of the `i`-th frame of a gap-free log: the stream's id and `i` itself, as long as the 64-bit
field has not wrapped -/
theorem nonce_get {l : List Frame} (h : l.map (·.seq) = List.range l.length) (hlen : l.length ≤ 2^64)
    {i : Nat} {f : Frame} (hf : l[i]? = some f) (id : Nat) : nonce id f = (id, i) := by
  have hlt : i < l.length := (List.getElem?_eq_some_iff.1 hf).1
  have h1 : (l.map (·.seq))[i]? = some f.seq := by simp [List.getElem?_map, hf]
  rw [h, List.getElem?_range hlt] at h1
  cases h1
  rw [nonce, Nat.mod_eq_of_lt (Nat.lt_of_lt_of_le hlt hlen)]

/-- **C13 (nonce uniqueness).** One endpoint, one session key: `logs[k]` is the log of the `k`-th
opened stream (each gap-free by `c13_gapfree`).  While fewer than `2^32 − 2` streams have been
opened and at most `2^64` frames encoded per stream, two frames with the same `(stream id, seq)`
header fields are the same frame of the same stream, and none collides with the pair reserved for
the session-closing notice `(0xffffffff, 0)` (which `Session.Close` emits at most once, after its
CAS — `gen_structure`). -/
theorem c13_nonce_unique (logs : List (List Frame))
    (hgap : ∀ l ∈ logs, l.map (·.seq) = List.range l.length)
    (hstreams : logs.length + 2 ≤ 2^32) (hframes : ∀ l ∈ logs, l.length ≤ 2^64)
    (k1 k2 i1 i2 : Nat) (l1 l2 : List Frame) (f1 f2 : Frame)
    (h1 : logs[k1]? = some l1) (h2 : logs[k2]? = some l2) (g1 : l1[i1]? = some f1) (g2 : l2[i2]? = some f2) :
    (nonce (streamId k1) f1 = nonce (streamId k2) f2 → k1 = k2 ∧ i1 = i2) ∧
    nonce (streamId k1) f1 ≠ (Gen.Sender.sessCloseStreamID.toNat, Gen.Sender.sessCloseSeq.toNat) := by
  have hk1 : k1 < logs.length := (List.getElem?_eq_some_iff.1 h1).1
  have hk2 : k2 < logs.length := (List.getElem?_eq_some_iff.1 h2).1
  have m1 := List.mem_of_getElem? h1
  have m2 := List.mem_of_getElem? h2
  rw [nonce_get (hgap l1 m1) (hframes l1 m1) g1, nonce_get (hgap l2 m2) (hframes l2 m2) g2]
  -- below 2^32 − 1 the allocator has not wrapped
  have hid : ∀ k, k < logs.length → streamId k = k + 1 := by
    intro k hk
    show (1 + k) % 2^32 = k + 1
    rw [Nat.mod_eq_of_lt (by omega)]; omega
  rw [hid k1 hk1, hid k2 hk2]
  refine ⟨fun h => by cases h; exact ⟨rfl, rfl⟩, fun h => ?_⟩
  have h' : k1 + 1 = 4294967295 := congrArg Prod.fst h
  omega

/-- **C13 (nonce uniqueness, streams numbered by the peer).** The endpoint that ACCEPTS streams sends on ids the peer
chose: `streams` lists (id, log of the frames sent on it), the ids pairwise distinct — the stream table creates a stream
only for an id it has never seen and keeps closed ids as tombstones (`Gen.Datagram.recvDemuxByStreamID`, C12's
`recvTombstoneDrops`), and a refused stream's single closing frame `(id, 0)` is such a log of length one. Two frames with
the same `(stream id, seq)` are the same frame of the same stream; and none collides with the pair reserved for the
session-closing notice as long as no stream is numbered `0xffffffff` (the peer's choice: an honest client numbers
1, 2, …, `c13_nonce_unique`). -/
theorem c13_nonce_unique_peer_ids (streams : List (Nat × List Frame))
    (hids : (streams.map (·.1)).Nodup)
    (hgap : ∀ p ∈ streams, p.2.map (·.seq) = List.range p.2.length) (hframes : ∀ p ∈ streams, p.2.length ≤ 2^64)
    (k1 k2 i1 i2 : Nat) (p1 p2 : Nat × List Frame) (f1 f2 : Frame)
    (h1 : streams[k1]? = some p1) (h2 : streams[k2]? = some p2) (g1 : p1.2[i1]? = some f1) (g2 : p2.2[i2]? = some f2) :
    (nonce p1.1 f1 = nonce p2.1 f2 → k1 = k2 ∧ i1 = i2) ∧
    (p1.1 ≠ Gen.Sender.sessCloseStreamID.toNat → nonce p1.1 f1 ≠ (Gen.Sender.sessCloseStreamID.toNat, Gen.Sender.sessCloseSeq.toNat)) := by
  have m1 := List.mem_of_getElem? h1
  have m2 := List.mem_of_getElem? h2
  rw [nonce_get (hgap p1 m1) (hframes p1 m1) g1, nonce_get (hgap p2 m2) (hframes p2 m2) g2]
  refine ⟨fun h => ?_, fun hne h => hne (congrArg Prod.fst h)⟩
  cases Prod.mk.inj h with | intro hid hi =>
  have e1 : (streams.map (·.1))[k1]? = some p1.1 := by simp [List.getElem?_map, h1]
  have e2 : (streams.map (·.1))[k2]? = some p2.1 := by simp [List.getElem?_map, h2]
  rw [hid] at e1
  exact ⟨(List.getElem?_inj (List.getElem?_eq_some_iff.1 e1).1 hids).1 (e1.trans e2.symm), hi⟩

/-- non-vacuity of `c13_nonce_unique_peer_ids`: the accepting endpoint with streams 7 (two frames sent) and 5000 (refused: one frame) -/
example : ([7, 5000] : List Nat).Nodup ∧ ([⟨0, false, 0, 0⟩, ⟨1, false, 1, 0⟩] : List Frame).map (·.seq) = List.range 2 := by decide

/-! ### the closing notice is the last frame of the stream

(C13: "a close puts a closing frame on the wire numbered after every frame of the writes that completed before it";
C03: "once a side has closed the stream … its writes fail".)  Needs `Gen.Sender.readFromChkUnderLock`: every
critical section that can number a frame starts with the closed-test. -/

theorem body_ok (fs : List (Nat × Res)) (q : List Instr) :
    gOK (fs.flatMap (fun x => frameI true false x.1 x.2) ++ q) = gOK q ∧
    casTailOK (fs.flatMap (fun x => frameI true false x.1 x.2) ++ q) = casTailOK q ∧
    casGuardOK (fs.flatMap (fun x => frameI true false x.1 x.2) ++ q) = casGuardOK q := by
  induction fs with
  | nil => simp
  | cons x xs ih => simpa [frameI, gOK, casTailOK, casGuardOK] using ih

theorem chunks_ok (cs : List (Nat × Res)) :
    gOK (cs.flatMap (fun x => sect true (Instr.chk :: frameI true false x.1 x.2))) = true ∧
    casTailOK (cs.flatMap (fun x => sect true (Instr.chk :: frameI true false x.1 x.2))) = true ∧
    casGuardOK (cs.flatMap (fun x => sect true (Instr.chk :: frameI true false x.1 x.2))) = true := by
  induction cs with
  | nil => simp [gOK, casTailOK, casGuardOK]
  | cons x xs ih => simpa [sect, frameI, gOK, casTailOK, casGuardOK] using ih

/-- **the tie**: with the extracted shape (closed-test inside every sending section) every call's program has the
three structural properties the invariant `CI` needs -/
theorem call_guarded (c : Call) : gOK c.prog = true ∧ casTailOK c.prog = true ∧ casGuardOK c.prog = true := by
  unfold Call.prog
  rw [gen_shape]
  cases c with
  | write fs =>
    have h := body_ok fs [Instr.unlock]
    simp only [Call.progW, sect, if_true, List.cons_append]
    simp [gOK, casTailOK, casGuardOK, h.1, h.2.1, h.2.2]
  | readFrom cs =>
    simp only [Call.progW, if_true]
    exact chunks_ok cs
  | close pl r => simp [Call.progW, sect, frameI, gOK, casTailOK, casGuardOK]

theorem calls_ci (calls : List Call) : CI (init (calls.map Call.prog)) := by
  apply init_ci
  intro p hp
  simp only [List.mem_map] at hp
  obtain ⟨c, _, rfl⟩ := hp
  exact call_guarded c

/-- **C13/C03 (the closing notice is last).** Any number of concurrent `Write`, `ReadFrom` and `Close` calls on one
stream, any outcome of every send, any schedule: a frame that carries the closing flag is the LAST frame the stream
ever numbers, and the last one it hands to a connection — nothing follows the closing notice on the wire, so a chunk
a `ReadFrom` had taken before the close is either numbered before the notice or refused.  (False for the tree before
/repo 6ee9036: `c13_chk_outside_witness`.) -/
theorem c13_close_last (calls : List Call) (sched : List Nat) :
    let s := runSched (init (calls.map Call.prog)) sched
    (∀ (pre : List Frame) (f : Frame) (post : List Frame), s.enc = pre ++ f :: post → f.closing = true → post = []) ∧
    (∀ (pre : List Frame) (f : Frame) (post : List Frame), s.wire = pre ++ f :: post → f.closing = true → post = []) := by
  intro s
  have hi := run_inv sched _ (calls_inv calls)
  have hc := run_ci sched _ (calls_inv calls) (calls_ci calls)
  exact ⟨hc.last, last_of_sublist hi.wire hc.last⟩

/-- consequence: at most one frame carries the closing flag — data frames never do -/
theorem c13_one_closing (calls : List Call) (sched : List Nat) :
    let s := runSched (init (calls.map Call.prog)) sched
    (s.enc.filter (·.closing)).length ≤ 1 := by
  intro s
  have h := (c13_close_last calls sched).1
  have : ∀ l : List Frame, (∀ (pre : List Frame) (f : Frame) (post : List Frame), l = pre ++ f :: post → f.closing = true → post = []) →
      (l.filter (·.closing)).length ≤ 1 := by
    intro l
    induction l with
    | nil => intro _; simp
    | cons x xs ih =>
      intro hl
      by_cases hx : x.closing = true
      · have := hl [] x xs rfl hx
        subst this; simp [hx]
      · have hx' : x.closing = false := by simpa using hx
        simp only [List.filter_cons, hx']
        apply ih
        intro pre f post he hf
        exact hl (x :: pre) f post (by rw [he]; rfl) hf
  exact this _ h

/-! ### non-vacuity and the mutant's witness -/

/-- a two-frame `Write`, a `Close` and a `ReadFrom` on one stream: the model really consumes 0,1,2, the closing
frame gets number 2, and the `ReadFrom` that arrives afterwards is refused (its closed-test is in its section) -/
example :
    let calls := [Call.write [(10, .ok), (11, .ok)], Call.close 99 .ok, Call.readFrom [(12, .ok)]]
    let s := runSched (init (calls.map Call.prog)) [0, 0, 0, 0, 0, 0, 0, 0, 0, 1, 1, 1, 1, 1, 1, 2, 2, 2]
    s.enc.map (fun f => (f.seq, f.closing, f.pl)) = [(0, false, 10), (1, false, 11), (2, true, 99)] ∧
    s.closed = true ∧ s.lock = none := by decide

/-- **the pinned witness of the defect repaired by /repo 6ee9036** (`Gen.Sender.readFromChkUnderLock = false`
there): with `ReadFrom`'s closed-test OUTSIDE its critical section, a `ReadFrom` that passed the test while a
`Write` held the mutex is numbered AFTER the closing frame and even carries the closing flag — frame
`(3, closing, 12)` follows `(2, closing, 99)`; the peer drops it.  The harness replays this schedule on the real
code (`c03race.go`). -/
theorem c13_chk_outside_witness :
    let sh : Shape := ⟨true, true, true, true, false⟩
    let calls := [Call.write [(10, .ok), (11, .ok)], Call.close 99 .ok, Call.readFrom [(12, .ok)]]
    let s := runSched (init (calls.map (Call.progW sh))) [2, 0, 0, 0, 0, 0, 1, 0, 0, 0, 0, 1, 1, 1, 1, 1, 1, 2, 2, 2, 2, 2]
    s.enc.map (fun f => (f.seq, f.closing, f.pl)) = [(0, false, 10), (1, false, 11), (2, true, 99), (3, true, 12)] ∧
    s.closed = true := by decide

/-- a failed send consumes its number: the next frame skips it (connection error on frame 1) -/
example :
    let calls := [Call.write [(10, .ok), (11, .connErr), (12, .ok)], Call.write [(20, .ok)]]
    let s := runSched (init (calls.map Call.prog)) [0, 0, 0, 0, 0, 0, 0, 0, 0, 0, 1, 1, 1]
    s.enc.map (·.seq) = [0, 1] ∧ s.wire.map (·.seq) = [0] ∧ s.seq = 2 ∧ s.closed = true := by decide

/-- **the mutant's witness (spike S7).** If `ReadFrom` sent without `writingM` (shape
`lockReadFrom = false`), a `ReadFrom` chunk and a `Write` can both read `Seq = 0`: two different
frames with the same number reach the wire.  The harness replays this race on the wire tap. -/
theorem c13_unlocked_witness :
    let sh : Shape := ⟨true, false, true, true, false⟩
    let progs := [Call.progW sh (.readFrom [(7, .ok)]), Call.progW sh (.write [(8, .ok)])]
    let s := runSched (init progs) [0, 1, 1, 0, 1, 0, 1, 0, 1, 1]
    s.wire.map (fun f => (f.seq, f.pl)) = [(0, 7), (0, 8)] := by decide

end C13

#print axioms C13.c13_gapfree
#print axioms C13.c13_order
#print axioms C13.c13_call_order
#print axioms C13.c13_nonce_unique
#print axioms C13.c13_unlocked_witness
#print axioms C13.c13_close_last
#print axioms C13.c13_one_closing
#print axioms C13.c13_chk_outside_witness
