import CloakModel.Model.Locks

/-! Generic theorem: rank-ordered, well-bracketed lock programs never deadlock — any number of threads,
any schedule, any blocking discipline in which a refused acquisition has another holder.
(ported from spike S1 `C17Locks.lean`) plus the transport lemmas class-program → instance-program
(`ok_map`, `renamed_no_deadlock`) and, for the exclusive-lock discipline `mutexD`, the executable machine
`Locks.Exec` as the relation (`step1_moved`, `deadlockedB_sound`). -/

namespace Locks

def Inv (rank : Nat → Nat) (s : List Thread) : Prop := ∀ t ∈ s, ok rank t.held t.prog

theorem inv_step (D : Discipline) (rank) {s s'} (h : Inv rank s) (st : Step D s s') : Inv rank s' := by
  -- in both cases the new record of the moving thread is the tail of `ok`'s unfolding at the executed instruction
  cases st with
  | acq i t l p hi hp _ | rel i t l p hi hp =>
    intro u hu
    rcases List.mem_or_eq_of_mem_set hu with hu | rfl
    · exact h u hu
    · have := h t (List.mem_of_getElem? hi)
      rw [hp] at this
      exact this.2

theorem inv_reach (D : Discipline) (rank) {s0 s} (h0 : Inv rank s0) (hr : Reach D s0 s) : Inv rank s := by
  induction hr with
  | refl => exact h0
  | step _ st ih => exact inv_step D rank ih st

/-- in a stuck state satisfying `Inv`, every blocked thread awaiting `l` yields another blocked thread
awaiting a lock of strictly larger rank -/
theorem climb (D : Discipline) (rank) (s : List Thread) (hinv : Inv rank s)
    (hd : ∀ s', ¬ Step D s s') (i : Nat) (t : Thread) (l : Nat) (p : List Instr)
    (hi : s[i]? = some t) (hp : t.prog = .acq l :: p) :
    ∃ (j : Nat) (t' : Thread) (l' : Nat) (p' : List Instr),
      s[j]? = some t' ∧ t'.prog = Instr.acq l' :: p' ∧ rank l < rank l' := by
  have hblocked : ¬ D.canAcq s i l := fun hc => hd _ (Step.acq s i t l p hi hp hc)
  obtain ⟨j, _, t', hj, hl⟩ := D.blocked_has_holder s i l hblocked
  have hok := hinv t' (List.mem_of_getElem? hj)
  match hprog : t'.prog with
  | [] =>
    rw [hprog] at hok
    simp [ok] at hok
    rw [hok] at hl; simp at hl
  | .rel l' :: p' =>
    exact absurd (Step.rel s j t' l' p' hj hprog) (hd _)
  | .acq l' :: p' =>
    rw [hprog] at hok
    exact ⟨j, t', l', p', hj, hprog, hok.1 l hl⟩

theorem locks_rank_ordered_no_deadlock (D : Discipline) (rank : Nat → Nat) (R : Nat)
    (hR : ∀ l, rank l < R)
    (s0 : List Thread) (h0 : ∀ t ∈ s0, t.held = [] ∧ ok rank [] t.prog)
    (s : List Thread) (hr : Reach D s0 s) : ¬ Deadlocked D s := by
  intro ⟨⟨t, ht, hne⟩, hd⟩
  have hinv : Inv rank s := inv_reach D rank (fun t ht => by
    have := h0 t ht; rw [this.1]; exact this.2) hr
  obtain ⟨i, hi⟩ := List.getElem?_of_mem ht
  have key : ∀ n, ∃ (j : Nat) (t' : Thread) (l' : Nat) (p' : List Instr),
      s[j]? = some t' ∧ t'.prog = Instr.acq l' :: p' ∧ n ≤ rank l' := by
    intro n
    induction n with
    | zero =>
      match hprog : t.prog with
      | [] => exact absurd hprog hne
      | .rel l :: p => exact absurd (Step.rel s i t l p hi hprog) (hd _)
      | .acq l :: p => exact ⟨i, t, l, p, hi, hprog, Nat.zero_le _⟩
    | succ n ih =>
      obtain ⟨j, t', l', p', hj, hp, hle⟩ := ih
      obtain ⟨j2, t2, l2, p2, hj2, hp2, hlt⟩ := climb D rank s hinv hd j t' l' p' hj hp
      exact ⟨j2, t2, l2, p2, hj2, hp2, by omega⟩
  obtain ⟨_, _, l', _, _, _, hle⟩ := key R
  have := hR l'
  omega

theorem okb_iff (rank : Nat → Nat) : ∀ (p : List Instr) (held : List Nat), okb rank held p = true ↔ ok rank held p := by
  intro p
  induction p with
  | nil => intro held; simp [okb, ok, List.isEmpty_iff]
  | cons i p ih => intro held; cases i <;> simp [okb, ok, ih]

theorem ok_of_okb (rank : Nat → Nat) (p : List Instr) (held : List Nat) (h : okb rank held p = true) : ok rank held p :=
  (okb_iff rank p held).1 h

theorem okb_of_ok (rank : Nat → Nat) : ∀ (p : List Instr) (held : List Nat), ok rank held p → okb rank held p = true :=
  fun p held => (okb_iff rank p held).2

/-! ### class programs → instance programs -/

theorem erase_map_inj (f : Nat → Nat) (hf : ∀ a b, f a = f b → a = b) (l : Nat) :
    ∀ held : List Nat, (held.map f).erase (f l) = (held.erase l).map f := by
  intro held
  induction held with
  | nil => rfl
  | cons h t ih =>
    by_cases hh : h = l
    · subst hh; simp
    · have : f h ≠ f l := fun e => hh (hf _ _ e)
      simp only [List.map_cons, List.erase_cons, beq_iff_eq, this, hh, if_false, ih]

/-- a rank-ordered class program stays rank-ordered when its classes are renamed injectively into
instances of the same rank -/
theorem ok_map (rank rank' : Nat → Nat) (f : Nat → Nat) (hf : ∀ a b, f a = f b → a = b)
    (hr : ∀ c, rank (f c) = rank' c) :
    ∀ (p : List Instr) (held : List Nat), ok rank' held p → ok rank (held.map f) (p.map (Instr.map f)) := by
  intro p
  induction p with
  | nil => intro held h; simp only [ok] at h; subst h; simp [ok]
  | cons i p ih =>
    intro held h
    cases i with
    | acq l =>
      simp only [List.map_cons, Instr.map, ok]
      refine ⟨?_, ?_⟩
      · intro x hx
        obtain ⟨y, hy, rfl⟩ := List.mem_map.1 hx
        rw [hr, hr]; exact h.1 y hy
      · have := ih (l :: held) h.2
        simpa using this
    | rel l =>
      simp only [List.map_cons, Instr.map, ok]
      refine ⟨List.mem_map.2 ⟨l, h.1, rfl⟩, ?_⟩
      rw [erase_map_inj f hf]
      exact ih _ h.2

theorem instOf_inj (u : Nat) : ∀ a b, instOf u a = instOf u b → a = b := by
  intro a b h
  unfold instOf at h
  split at h <;> split at h <;> omega

theorem rankQAS_instOf (u c : Nat) : rankQAS (instOf u c) = rankQAS c := by
  unfold rankQAS instOf
  split <;> omega

/-- the form in which the theorem is used: every thread runs a rank-ordered program over lock CLASSES, renamed
injectively and rank-preservingly into the lock INSTANCES it works on -/
theorem renamed_no_deadlock (D : Discipline) (rank : Nat → Nat) (R : Nat) (hR : ∀ l, rank l < R) (s0 : List Thread)
    (h0 : ∀ t ∈ s0, t.held = [] ∧ ∃ (p : List Instr) (f : Nat → Nat), ok rank [] p ∧ (∀ a b, f a = f b → a = b) ∧
      (∀ c, rank (f c) = rank c) ∧ t.prog = p.map (Instr.map f))
    (s : List Thread) (hr : Reach D s0 s) : ¬ Deadlocked D s := by
  refine locks_rank_ordered_no_deadlock D rank R hR s0 (fun t ht => ?_) s hr
  obtain ⟨hh, p, f, hok, hf, hrk, hprog⟩ := h0 t ht
  exact ⟨hh, hprog ▸ ok_map rank rank f hf hrk p [] hok⟩

/-! ### the exclusive-lock discipline (an instance, used for non-vacuity and for the pinned witness) -/

def mutexD : Discipline where
  canAcq := fun s i l => ∀ j t, j ≠ i → s[j]? = some t → l ∉ t.held
  blocked_has_holder := by
    intro s i l h
    apply Classical.byContradiction
    intro hn
    apply h
    intro j t hj ht hl
    exact hn ⟨j, hj, t, ht, hl⟩

/-! ### the executable machine (`Locks.Exec`, what the driver runs) is the relation under `mutexD` -/
open Exec

theorem canAcqB_iff (s : List Thread) (i l : Nat) : canAcqB s i l = true ↔ mutexD.canAcq s i l := by
  simp only [canAcqB, holders, List.all_eq_true, List.mem_filter, List.mem_range, beq_iff_eq, mutexD]
  constructor
  · intro h j t hj ht hl
    exact hj (h j ⟨(List.getElem?_eq_some_iff.1 ht).1, by simp [ht, hl]⟩)
  · intro h j ⟨_, hm⟩
    cases ht : s[j]? with
    | none => simp [ht] at hm
    | some t =>
      rw [ht] at hm
      exact Classical.byContradiction fun hj => h j t hj ht (by simpa using hm)

/-- a move of the executable machine is a step of the relation -/
theorem step1_moved {s s' : List Thread} {i : Nat} (h : step1 s i = (s', .moved)) : Step mutexD s s' := by
  unfold step1 at h
  split at h
  · cases h
  · rename_i t ht
    split at h
    · cases h
    · rename_i l p hp
      split at h
      · cases h; exact .acq s i t l p ht hp ((canAcqB_iff s i l).1 ‹_›)
      · cases h
    · rename_i l p hp
      cases h; exact .rel s i t l p ht hp

/-- what the executable deadlock test finds is a deadlock -/
theorem deadlockedB_sound {s : List Thread} (h : deadlockedB s = true) : Deadlocked mutexD s := by
  simp only [deadlockedB, Bool.and_eq_true, List.any_eq_true, List.all_eq_true, List.mem_range] at h
  obtain ⟨⟨t, ht, hne⟩, hall⟩ := h
  refine ⟨⟨t, ht, by intro h0; simp [h0] at hne⟩, ?_⟩
  intro s' hs
  cases hs with
  | acq i t l p hi hp hc =>
    have := hall i (List.getElem?_eq_some_iff.1 hi).1
    simp [step1, hi, hp, (canAcqB_iff s i l).2 hc] at this
  | rel i t l p hi hp =>
    have := hall i (List.getElem?_eq_some_iff.1 hi).1
    simp [step1, hi, hp] at this

end Locks
