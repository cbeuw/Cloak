import CloakModel.Model.ClientConfig

/-! Lemmas for C20's option-string front end: `strings.Replace` with a two-character pattern as a
structural function, and splitting at separators that occur only where the renderer put them. -/

namespace CC

/-! ### `replaceAll` with a two-character pattern -/

def rep2 (a b : Char) (new : Str) : Str → Str
  | [] => []
  | [c] => [c]
  | c :: d :: r => if c = a ∧ d = b then new ++ rep2 a b new r else c :: rep2 a b new (d :: r)

theorem go_eq_rep2 (a b : Char) (new : Str) (s : Str) : ∀ fuel, s.length ≤ fuel →
    replaceAll.go [a, b] new fuel s = rep2 a b new s := by
  induction s using rep2.induct a b with
  | case1 => intro fuel _; cases fuel <;> rfl
  | case2 c =>
    intro fuel h
    obtain ⟨f, rfl⟩ : ∃ f, fuel = f + 1 := ⟨fuel - 1, by simp at h; omega⟩
    cases f <;> simp [replaceAll.go, isPrefix, rep2]
  | case3 c d r hcd ih =>
    intro fuel h
    obtain ⟨f, rfl⟩ : ∃ f, fuel = f + 1 := ⟨fuel - 1, by simp at h; omega⟩
    obtain ⟨rfl, rfl⟩ := hcd
    simp [replaceAll.go, isPrefix, rep2, ih f (by simp at h; omega)]
  | case4 c d r hcd ih =>
    intro fuel h
    obtain ⟨f, rfl⟩ : ∃ f, fuel = f + 1 := ⟨fuel - 1, by simp at h; omega⟩
    have : ¬ (a = c ∧ b = d) := fun e => hcd ⟨e.1.symm, e.2.symm⟩
    simp [replaceAll.go, isPrefix, rep2, hcd, this, ih f (by simp at h ⊢; omega)]

theorem replaceAll_two (a b : Char) (new : Str) (s : Str) : replaceAll [a, b] new s = rep2 a b new s :=
  go_eq_rep2 a b new s s.length (Nat.le_refl _)

theorem rep2_cons_ne (a b : Char) (new : Str) (c : Char) (s : Str) (h : c ≠ a) :
    rep2 a b new (c :: s) = c :: rep2 a b new s := by
  cases s <;> simp [rep2, h]

/-- a stretch without the pattern's first character is copied, whatever follows -/
theorem rep2_append_of_not_mem (a b : Char) (new : Str) (s t : Str) (h : a ∉ s) :
    rep2 a b new (s ++ t) = s ++ rep2 a b new t := by
  induction s with
  | nil => rfl
  | cons c r ih =>
    simp only [List.mem_cons, not_or] at h
    rw [List.cons_append, rep2_cons_ne _ _ _ _ _ (Ne.symm h.1), ih h.2, List.cons_append]

theorem rep2_no_first (a b : Char) (new : Str) (s : Str) (h : a ∉ s) : rep2 a b new s = s := by
  simpa [rep2] using rep2_append_of_not_mem a b new s [] h

/-! ### splitting -/

theorem splitOn_ne_nil (sep : Char) (s : Str) : splitOn sep s ≠ [] := by
  cases s with
  | nil => simp [splitOn]
  | cons c cs =>
    simp only [splitOn]
    split
    · simp
    · split <;> simp

theorem splitOn_append_sep (sep : Char) (s rest : Str) (h : sep ∉ s) :
    splitOn sep (s ++ sep :: rest) = s :: splitOn sep rest := by
  induction s with
  | nil => simp [splitOn]
  | cons c r ih =>
    simp only [List.mem_cons, not_or] at h
    simp only [List.cons_append, splitOn, Ne.symm h.1, if_false, ih h.2]

theorem splitFirst_append_sep (sep : Char) (k v : Str) (h : sep ∉ k) :
    splitFirst sep (k ++ sep :: v) = some (k, v) := by
  induction k with
  | nil => simp [splitFirst]
  | cons c r ih =>
    simp only [List.mem_cons, not_or] at h
    simp only [List.cons_append, splitFirst, Ne.symm h.1, if_false, ih h.2]

end CC
