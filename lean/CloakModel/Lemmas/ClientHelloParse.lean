import CloakModel.Lemmas.HsBytes

/-! Correctness of the recursive parts of the ClientHello parser model against the structural
serializer: the extension loop (`parseExts`, ported from spike S15), the "last one wins" lookup, and
the key-share entry loop (`ksLoop`) — for ANY extension order and content and ANY position of the
X25519 entry among other key shares. -/
set_option linter.unusedSimpArgs false
set_option linter.unusedVariables false

namespace HS

theorem be16_length (x : Nat) : (be16 x).length = 2 := rfl

theorem serExt_length (e : Ext) : (serExt e).length = 4 + e.data.length := by
  simp [serExt, be16]; omega

theorem serExts_append (a b : List Ext) : serExts (a ++ b) = serExts a ++ serExts b := by
  simp [serExts]

theorem serExts_cons (e : Ext) (es : List Ext) : serExts (e :: es) = serExt e ++ serExts es := by
  simp [serExts]

theorem serExts_length_ge (es : List Ext) : es.length ≤ (serExts es).length := by
  induction es with
  | nil => simp [serExts]
  | cons e es ih => rw [serExts_cons, List.length_append, serExt_length]; simp; omega

/-- expected locations of the extensions when the list starts at offset `p` -/
def locs : Nat → List Ext → List Loc
  | _, [] => []
  | p, e :: es => ⟨e.typ, p + 4, e.data.length⟩ :: locs (p + 4 + e.data.length) es

theorem locs_append (a b : List Ext) : ∀ p, locs p (a ++ b) = locs p a ++ locs (p + (serExts a).length) b := by
  induction a with
  | nil => intro p; simp [locs, serExts]
  | cons e es ih =>
    intro p
    simp only [List.cons_append, locs, ih, serExts_cons, List.length_append, serExt_length, List.cons.injEq, true_and]
    have : p + 4 + e.data.length + (serExts es).length = p + (4 + e.data.length + (serExts es).length) := by omega
    rw [this]

theorem locs_typ (es : List Ext) : ∀ p, (locs p es).map (·.typ) = es.map (·.typ) := by
  induction es with
  | nil => intro p; rfl
  | cons e es ih => intro p; simp [locs, ih]

/-- the extension loop on a buffer that reads a serialized extension list from `p` to its end -/
theorem parseExts_at {b : Bytes} {es : List Ext} : ∀ {p fuel : Nat}, At b p (serExts es) →
    (∀ e ∈ es, e.typ < 65536 ∧ e.data.length < 65536) → es.length < fuel → parseExts b fuel p = some (locs p es) := by
  induction es with
  | nil =>
    intro p fuel h _ hf
    have := h.length
    cases fuel with
    | zero => omega
    | succ f => simp [parseExts, locs, show b.length ≤ p by simpa [serExts] using Nat.le_of_eq this]
  | cons e es ih =>
    intro p fuel h hw hf
    cases fuel with
    | zero => omega
    | succ f =>
      have he := hw e (by simp)
      have c0 : At b p (be16 e.typ ++ (be16 e.data.length ++ (e.data ++ serExts es))) := by
        simpa only [serExts_cons, serExt, List.append_assoc] using h
      have c2 : At b (p + 2) _ := c0.skip rfl
      have c4 : At b (p + 4) _ := c2.skip rfl
      have cn : At b (p + 4 + e.data.length) _ := c4.skip rfl
      have hl := c4.length
      rw [List.length_append] at hl
      rw [parseExts, if_neg (by omega), c0.rd16 he.1, c2.rd16 he.2]
      simp only
      rw [if_pos (by omega), ih cn (fun x hx => hw x (by simp [hx])) (by simp at hf; omega)]
      rfl

/-- with the fuel `parseClientHello` gives the loop -/
theorem parseExts_full {b : Bytes} {es : List Ext} {p : Nat} (h : At b p (serExts es))
    (hw : ∀ e ∈ es, e.typ < 65536 ∧ e.data.length < 65536) : parseExts b (b.length + 1) p = some (locs p es) :=
  parseExts_at h hw (by have := h.length; have := serExts_length_ge es; omega)

theorem parseExts_correct : ∀ (es : List Ext) (pre : Bytes) (fuel : Nat),
    (∀ e ∈ es, e.typ < 65536 ∧ e.data.length < 65536) → es.length < fuel →
    parseExts (pre ++ serExts es) fuel pre.length = some (locs pre.length es) :=
  fun es pre _ hw hf => parseExts_at (At.mk pre _) hw hf

/-- "the last extension of a type wins": if no later extension has the type, the lookup returns the
location of this one -/
theorem lookupExt_last (typ p : Nat) (before after : List Ext) (x : Ext) (hx : x.typ = typ)
    (hafter : ∀ e ∈ after, e.typ ≠ typ) :
    lookupExt typ (locs p (before ++ [x] ++ after)) =
      some ⟨typ, p + (serExts before).length + 4, x.data.length⟩ := by
  unfold lookupExt
  rw [List.append_assoc, locs_append, locs_append]
  simp only [locs, List.reverse_append, List.reverse_cons, List.reverse_nil, List.nil_append, List.append_assoc]
  rw [List.find?_append]
  have hnone : (locs (p + (serExts before).length + (serExts [x]).length) after).reverse.find? (fun l => l.typ == typ) = none := by
    rw [List.find?_eq_none]
    intro l hl
    have hl' := List.mem_reverse.1 hl
    have : l.typ ∈ (locs (p + (serExts before).length + (serExts [x]).length) after).map (·.typ) := List.mem_map.2 ⟨l, hl', rfl⟩
    rw [locs_typ] at this
    obtain ⟨e, he, het⟩ := List.mem_map.1 this
    simp only [beq_iff_eq]
    rw [← het]; exact hafter e he
  rw [hnone]
  simp [hx]

/-! ### the key-share entry loop -/

theorem serKs_length (k : KsEntry) : (serKs k).length = 4 + k.key.length := by
  simp [serKs, be16]; omega

theorem gen_ks : beNat (Gen.Handshake.ksGroup.map UInt8.ofNat) = 29 ∧ Gen.Handshake.ksKeyLen = 32 ∧
    beNat (Gen.Handshake.umExtKey.map UInt8.ofNat) = 51 ∧ Gen.Handshake.umCtLen = 64 ∧
    Gen.Handshake.ksTotalFromFirstTwo = true := by decide

theorem ks_length_ge (ks : List KsEntry) : ks.length ≤ ((ks.map serKs).flatten).length := by
  induction ks with
  | nil => simp
  | cons k ks ih => simp only [List.map_cons, List.flatten_cons, List.length_append, serKs_length, List.length_cons]; omega

/-- the entry loop finds the X25519 share behind any entries of other groups -/
theorem ksLoop_find {b post key : Bytes} {base total : Nat} (hk : key.length = 32) :
    ∀ {bef : List KsEntry} {ptr fuel : Nat}, At b (base + ptr) ((bef.map serKs).flatten ++ (serKs ⟨29, key⟩ ++ post)) →
    (∀ k ∈ bef, k.group ≠ 29 ∧ k.group < 65536 ∧ k.key.length < 65536) →
    ptr + ((bef.map serKs).flatten).length < total → bef.length < fuel →
    ksLoop b base total fuel ptr = some key := by
  intro bef
  induction bef with
  | nil =>
    intro ptr fuel h _ ht hf
    cases fuel with
    | zero => omega
    | succ f =>
      have c0 : At b (base + ptr) (be16 29 ++ (be16 key.length ++ (key ++ post))) := by
        simpa only [serKs, List.map_nil, List.flatten_nil, List.nil_append, List.append_assoc] using h
      have c2 : At b (base + ptr + 2) _ := c0.skip rfl
      have c4 : At b (base + ptr + 4) _ := c2.skip rfl
      simp only [List.map_nil, List.flatten_nil, List.length_nil, Nat.add_zero] at ht
      rw [ksLoop, if_neg (by omega), c0.rd16 (by omega), c2.rd16 (by omega)]
      simp only [gen_ks.1, gen_ks.2.1, hk, if_true, ne_eq, not_true_eq_false, if_false, c4.take? hk]
  | cons k ks ih =>
    intro ptr fuel h hw ht hf
    cases fuel with
    | zero => omega
    | succ f =>
      have hkk := hw k (by simp)
      have c0 : At b (base + ptr) (be16 k.group ++ (be16 k.key.length ++ (k.key ++
          ((ks.map serKs).flatten ++ (serKs ⟨29, key⟩ ++ post))))) := by
        simpa only [serKs, List.map_cons, List.flatten_cons, List.append_assoc] using h
      have c2 : At b (base + ptr + 2) _ := c0.skip rfl
      have c4 : At b (base + ptr + 4) _ := c2.skip rfl
      have cn : At b (base + (ptr + 4 + k.key.length)) _ := c4.skip (by omega)
      have hl := c4.length
      simp only [List.map_cons, List.flatten_cons, List.length_append, serKs_length] at ht hl
      rw [ksLoop, if_neg (by omega), c0.rd16 hkk.2.1, c2.rd16 hkk.2.2]
      simp only [gen_ks.1, hkk.1, if_false]
      rw [if_pos (by omega)]
      exact ih cn (fun x hx => hw x (by simp [hx])) (by omega) (by simp at hf; omega)

end HS
