import CloakModel.Model.HsReply
import CloakModel.Lemmas.Bytes

/-! Byte-level lemmas for the handshake layouts: reading a buffer at a cursor (`At`), writing with `blit` into a zeroed
buffer, `fit`, the int64/uint64 conversions, `bytes.Trim`. -/
set_option linter.unusedSimpArgs false
set_option linter.unusedVariables false

namespace HS

/-! ### reading: a cursor into a buffer

Every read of the models (`slice`, `take?`, `rd16`, `b[i]?`, the parser loops) looks at `b.drop p`.  A message is written
once as a right-nested concatenation of its fields and `At.skip` walks along it, field by field. -/

/-- from offset `p` on, `b` reads `r` -/
def At (b : Bytes) (p : Nat) (r : Bytes) : Prop := ∃ pre, b = pre ++ r ∧ pre.length = p

namespace At
variable {b x r : Bytes} {p q n v : Nat}

theorem of_eq (h : b = r) : At b 0 r := ⟨[], h, rfl⟩

theorem mk (pre r : Bytes) : At (pre ++ r) pre.length r := ⟨pre, rfl, rfl⟩

theorem skip (h : At b p (x ++ r)) (hq : q = p + x.length) : At b q r := by
  obtain ⟨pre, rfl, rfl⟩ := h
  exact ⟨pre ++ x, by simp, by simp [hq]⟩

theorem drop (h : At b p r) : b.drop p = r := by
  obtain ⟨pre, rfl, rfl⟩ := h; simp

theorem length (h : At b p r) : b.length = p + r.length := by
  obtain ⟨pre, rfl, rfl⟩ := h; simp

theorem slice (h : At b p (x ++ r)) (hq : q = p + x.length) : slice b p q = x := by
  subst hq; simp [HS.slice, h.drop]

theorem take? (h : At b p (x ++ r)) (hn : x.length = n) : take? b p n = some x := by
  subst hn
  have := h.length
  simp only [HS.take?, h.drop]
  rw [if_pos (by simp at this; omega)]; simp

theorem get {c : UInt8} (h : At b p (c :: r)) : b[p]? = some c := by
  obtain ⟨pre, rfl, rfl⟩ := h; simp

theorem rd16 (h : At b p (be16 v ++ r)) (hv : v < 65536) : rd16 b p = some v := by
  simp only [HS.rd16, h.drop, be16, List.cons_append, List.nil_append, UInt8.toNat_ofNat']
  congr 1; omega

end At

theorem slice_all {b : Bytes} {n : Nat} (h : b.length ≤ n) : slice b 0 n = b := by
  simp only [slice, List.drop_zero]; exact List.take_of_length_le h

/-! ### `fit`, `zeros`, and writing with `blit` -/

theorem fit_eq (n : Nat) (x : Bytes) (h : x.length = n) : fit n x = x := by
  subst h; simp [fit, zeros]

theorem fit_short {n : Nat} {x : Bytes} (h : x.length ≤ n) : fit n x = x ++ zeros (n - x.length) := by
  rw [fit, List.take_of_length_le h]

theorem fit_length (n : Nat) (x : Bytes) : (fit n x).length = n := by
  simp [fit, zeros]; omega

theorem zeros_length (n : Nat) : (zeros n).length = n := by simp [zeros]

theorem zeros_add (a b : Nat) : zeros (a + b) = zeros a ++ zeros b := by
  simp [zeros, List.replicate_append_replicate]

/-- `copy(buf[lo:hi], data)` where the region holds `old`: as much of `data` as fits, then what is left of `old` -/
theorem blit_region (a old c data : Bytes) (lo hi : Nat) (hlo : lo = a.length) (hhi : hi = lo + old.length) :
    blit (a ++ (old ++ c)) lo hi data = a ++ (data.take old.length ++ old.drop data.length ++ c) := by
  subst hlo; subst hhi
  have hd : (old ++ c).drop (min old.length data.length) = old.drop data.length ++ c := by
    rw [List.drop_append, Nat.sub_eq_zero_of_le (Nat.min_le_left ..), List.drop_zero]
    by_cases h : data.length ≤ old.length
    · rw [Nat.min_eq_right h]
    · rw [Nat.min_eq_left (by omega), List.drop_eq_nil_of_le (Nat.le_refl _), List.drop_eq_nil_of_le (by omega)]
  simp only [blit, Nat.add_sub_cancel_left, List.take_left', List.length_take, List.drop_append,
    List.drop_eq_nil_of_le (Nat.le_add_right ..), hd, List.append_assoc, List.nil_append]

/-- the sources fill a zeroed buffer from left to right: writing into the still-zero tail appends the value, fitted to
the width of the field -/
theorem blit_zeros {w : Bytes} {k lo hi : Nat} (n : Nat) (data : Bytes) (hlo : lo = w.length) (hhi : hi = lo + n) (hn : n ≤ k) :
    blit (w ++ zeros k) lo hi data = (w ++ fit n data) ++ zeros (k - n) := by
  have hk : zeros k = zeros n ++ zeros (k - n) := by rw [← zeros_add]; congr 1; omega
  rw [hk, blit_region w (zeros n) _ data lo hi hlo (by simp [hhi, zeros])]
  simp [fit, zeros, List.append_assoc]

/-- `copy(arr[:], x)` into a fresh zero array is `fit` -/
theorem blit_fresh (n : Nat) (x : Bytes) : blit (zeros n) 0 n x = fit n x := by
  have := blit_zeros (w := []) (k := n) n x rfl (Nat.zero_add n).symm (Nat.le_refl n)
  simpa [zeros] using this

theorem beNat_beBytes : ∀ (n v : Nat), beNat (beBytes n v) = v % 256 ^ n := _root_.beNat_beBytes

theorem i64_u64 (t : Int) (h1 : -9223372036854775808 ≤ t) (h2 : t < 9223372036854775808) :
    i64OfNat (u64OfInt t) = t := by
  unfold i64OfNat u64OfInt
  by_cases ht : 0 ≤ t
  · have : t % 18446744073709551616 = t := Int.emod_eq_of_lt ht (by omega)
    rw [this]
    have h3 : (t.toNat : Int) = t := Int.toNat_of_nonneg ht
    split <;> omega
  · have : t % 18446744073709551616 = t + 18446744073709551616 := by
      have := Int.emod_emod_of_dvd t (Int.dvd_refl 18446744073709551616)
      rw [← Int.add_emod_right]
      exact Int.emod_eq_of_lt (by omega) (by omega)
    rw [this]
    have h3 : ((t + 18446744073709551616).toNat : Int) = t + 18446744073709551616 := Int.toNat_of_nonneg (by omega)
    split <;> omega

theorem u64_lt (t : Int) : u64OfInt t < 256 ^ 8 := by
  unfold u64OfInt
  have h := Int.emod_lt_of_pos t (show (0 : Int) < 18446744073709551616 by decide)
  have h0 := Int.emod_nonneg t (show (18446744073709551616 : Int) ≠ 0 by decide)
  have : (256 : Nat) ^ 8 = 18446744073709551616 := by decide
  rw [this]
  omega

theorem dropWhile_zeros (k : Nat) (r : Bytes) :
    (zeros k ++ r).dropWhile (fun x => decide (x = 0)) = r.dropWhile (fun x => decide (x = 0)) := by
  induction k with
  | zero => simp [zeros]
  | succ n ih => simpa [zeros, List.replicate_succ, List.dropWhile_cons] using ih

/-- `bytes.Trim(m ++ zeros k, "\x00") = m` when `m` neither starts nor ends with a NUL -/
theorem trim_padded (m : Bytes) (k : Nat) (hh : m.head? ≠ some 0) (hl : m.getLast? ≠ some 0) :
    trim [0] (m ++ zeros k) = m := by
  have hfun : (fun (x : UInt8) => ([0] : List Nat).contains x.toNat) = fun x => decide (x = 0) := by
    funext x
    simp only [List.contains_cons, List.contains_nil, Bool.or_false, beq_iff_eq]
    rw [Bool.eq_iff_iff, beq_iff_eq, decide_eq_true_eq]
    exact ⟨fun h => UInt8.toNat_inj.1 (by simpa using h), fun h => h ▸ rfl⟩
  have hz : (zeros k).reverse = zeros k := by simp [zeros]
  simp only [trim, hfun]
  cases m with
  | nil =>
    have := dropWhile_zeros k []
    simp only [List.append_nil, List.dropWhile_nil] at this
    simp [this]
  | cons a as =>
    have ha : a ≠ 0 := by intro h; apply hh; simp [h]
    -- nothing is cut at the front; at the back the zeros go and the last byte of `m` stops the cut
    rw [List.cons_append, List.dropWhile_cons_of_neg (by simpa using ha), ← List.cons_append, List.reverse_append, hz,
      dropWhile_zeros]
    cases hr : (a :: as).reverse with
    | nil => simp at hr
    | cons b bs =>
      have hb : b ≠ 0 := by
        intro h; apply hl; rw [← List.head?_reverse, hr, h]; rfl
      rw [List.dropWhile_cons_of_neg (by simpa using hb), ← hr, List.reverse_reverse]

end HS
