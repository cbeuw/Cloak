import CloakModel.Model.UserStore
import CloakModel.Lemmas.Bytes

/-! Lemmas for C18: keyed lists, the abstract specification (`US.Spec`: uid ↦ record of six integers,
absent = 0, total operations that never panic), the abstraction function with its well-formedness
invariant, and decoding of a well-formed bucket under the repaired guards.  The simulation between the
concrete store model and the specification is in `UserStoreSim.lean`. -/
set_option linter.unusedSimpArgs false
set_option linter.unusedVariables false

namespace US
open GoInt

/-! ### bytes -/

theorem beNat_beBytes (n v : Nat) : beNat (beBytes n v) = v % 256 ^ n := _root_.beNat_beBytes n v

/-! ### keyed lists behave as a map -/

theorem AL.lookup_erase {α} (s : AL α) (k k' : Bytes) :
    (s.erase k).lookup k' = if k' = k then none else s.lookup k' := by
  induction s with
  | nil => simp [AL.erase, AL.lookup]
  | cons p r ih =>
    obtain ⟨a, v⟩ := p
    by_cases h : a = k
    · subst h
      simp only [AL.erase, if_true, AL.lookup, ih]
      by_cases h2 : k' = a
      · simp [h2]
      · have : ¬ a = k' := fun e => h2 e.symm
        simp [h2, this]
    · simp only [AL.erase, h, if_false, AL.lookup, ih]
      by_cases h2 : k' = k
      · subst h2; simp [h]
      · simp [h2]

theorem AL.lookup_set {α} (s : AL α) (k k' : Bytes) (v : α) :
    (s.set k v).lookup k' = if k' = k then some v else s.lookup k' := by
  simp only [AL.set, AL.lookup, AL.lookup_erase]
  by_cases h : k' = k
  · subst h; simp
  · have : ¬ k = k' := fun e => h e.symm
    simp [h, this]

def AL.mapv {α β} (f : α → β) (s : AL α) : AL β := s.map (fun p => (p.1, f p.2))

theorem AL.lookup_mapv {α β} (f : α → β) (s : AL α) (k : Bytes) :
    (AL.mapv f s).lookup k = (s.lookup k).map f := by
  induction s with
  | nil => simp [AL.mapv, AL.lookup]
  | cons p r ih =>
    obtain ⟨a, v⟩ := p
    simp only [AL.mapv, List.map_cons, AL.lookup] at ih ⊢
    by_cases h : a = k <;> simp [h, ih]

theorem AL.erase_mapv {α β} (f : α → β) (s : AL α) (k : Bytes) :
    (AL.mapv f s).erase k = AL.mapv f (s.erase k) := by
  induction s with
  | nil => simp [AL.mapv, AL.erase]
  | cons p r ih =>
    obtain ⟨a, v⟩ := p
    simp only [AL.mapv, List.map_cons, AL.erase] at ih ⊢
    by_cases h : a = k <;> simp [h, ih]

theorem AL.set_mapv {α β} (f : α → β) (s : AL α) (k : Bytes) (v : α) :
    (AL.mapv f s).set k (f v) = AL.mapv f (s.set k v) := by
  simp only [AL.set, AL.erase_mapv]; simp [AL.mapv]

theorem AL.mem_erase {α} (s : AL α) (k : Bytes) (p : Bytes × α) (h : p ∈ s.erase k) : p ∈ s := by
  induction s with
  | nil => simp [AL.erase] at h
  | cons q r ih =>
    obtain ⟨a, v⟩ := q
    simp only [AL.erase] at h
    by_cases hk : a = k
    · simp only [hk, if_true] at h; exact List.mem_cons_of_mem _ (ih h)
    · simp only [hk, if_false, List.mem_cons] at h
      rcases h with h | h
      · subst h; simp
      · exact List.mem_cons_of_mem _ (ih h)

theorem AL.mem_of_lookup {α} (s : AL α) (k : Bytes) (v : α) (h : s.lookup k = some v) : (k, v) ∈ s := by
  induction s with
  | nil => simp [AL.lookup] at h
  | cons q r ih =>
    obtain ⟨a, w⟩ := q
    simp only [AL.lookup] at h
    by_cases hk : a = k
    · simp only [hk, if_true, Option.some.injEq] at h; subst h; subst hk; simp
    · simp only [hk, if_false] at h; exact List.mem_cons_of_mem _ (ih h)

/-! ### the abstract specification: a keyed store of records -/

abbrev AStore := AL Rec

def Rec.zero : Rec := ⟨0, 0, 0, 0, 0, 0⟩

/-- a field mentioned in the request takes the new value, any other keeps its value -/
def orKeep : Option Int → Int → Int
  | some x, _ => x
  | none, old => old

def Rec.update (r : Rec) (i : Info) : Rec :=
  ⟨orKeep i.cap r.cap, orKeep i.upRate r.upRate, orKeep i.downRate r.downRate,
   orKeep i.upCredit r.upCredit, orKeep i.downCredit r.downCredit, orKeep i.expiry r.expiry⟩

/-- a user that does not exist yet starts from all-zero fields -/
def recOrNew : Option Rec → Rec
  | none => Rec.zero
  | some r => r

namespace Spec

def post (a : AStore) (u : Url) (b : Body) : AStore × Nat :=
  match u, b with
  | .ok uid, .ok i =>
    if uid ≠ i.uid then (a, 400)
    else if i.uid = [] then (a, 500)
    else (a.set i.uid ((recOrNew (a.lookup i.uid)).update i), 201)
  | _, _ => (a, 400)

def get (a : AStore) : Url → Nat × Option Rec
  | .ok uid =>
    match a.lookup uid with
    | none => (404, none)
    | some r => (200, some r)
  | _ => (400, none)

def del (a : AStore) : Url → AStore × Nat
  | .ok uid =>
    match a.lookup uid with
    | none => (a, 500)
    | some _ => (a.erase uid, 200)
  | _ => (a, 400)

def authRec (r : Rec) (now : Int) : AuthRes :=
  if r.upCredit ≤ 0 then .noUp
  else if r.downCredit ≤ 0 then .noDown
  else if r.expiry < now then .expired
  else .ok r.upRate r.downRate

def auth (a : AStore) (uid : Bytes) (now : Int) : AuthRes :=
  match a.lookup uid with
  | none => .notFound
  | some r => authRec r now

/-- the session cap is interpreted as an unsigned 32-bit number -/
def authz (a : AStore) (uid : Bytes) (n now : Int) : AuthzRes :=
  match a.lookup (pad16 uid) with
  | none => .notFound
  | some r =>
    if r.upCredit ≤ 0 then .noUp
    else if r.downCredit ≤ 0 then .noDown
    else if r.expiry < now then .expired
    else if n ≥ (toU32 r.cap : Nat) then .capReached
    else .ok

def uploadOne (now : Int) (acc : AStore × List (Bytes × Msg)) (u : Upd) : AStore × List (Bytes × Msg) :=
  match acc.1.lookup u.uid with
  | none => (acc.1, acc.2 ++ [(u.uid, .gone)])
  | some r =>
    let newUp := wrap64 (r.upCredit - u.up)
    let newDown := wrap64 (r.downCredit - u.down)
    (acc.1.set u.uid { r with upCredit := newUp, downCredit := newDown },
     acc.2 ++ (if newUp ≤ 0 then [(u.uid, Msg.noUp)] else []) ++ (if newDown ≤ 0 then [(u.uid, Msg.noDown)] else [])
       ++ (if now > r.expiry then [(u.uid, Msg.expired)] else []))

def upload (a : AStore) (ups : List Upd) (now : Int) : AStore × List (Bytes × Msg) :=
  ups.foldl (uploadOne now) (a, [])

/-- a user whose stored rate is not positive is refused, never activated -/
def getUser (a : AStore) (uid : Bytes) (now : Int) : UserRes :=
  match auth a uid now with
  | .ok up down => if up ≤ 0 ∨ down ≤ 0 then .badRate else .active
  | r => .refused r

/-- one operation on the abstract store; total, no panic outcome -/
def step (a : AStore) : Op → AStore × Out
  | .post u b => let r := post a u b; (r.1, .status r.2)
  | .get u => let r := get a u; (a, .info r.1 r.2)
  | .list => (a, .users a)
  | .del u => let r := del a u; (r.1, .status r.2)
  | .auth uid now => (a, .auth (auth a uid now))
  | .authz uid n now => (a, .authz (authz a uid n now))
  | .upload ups now => let r := upload a ups now; (r.1, .resps r.2)
  | .getUser uid now => (a, .user (getUser a uid now))
  | .reopen => (a, .ok)

def run : AStore → List Op → AStore × List Out
  | a, [] => (a, [])
  | a, op :: ops =>
    let r := step a op
    let rest := run r.1 ops
    (rest.1, r.2 :: rest.2)

end Spec

/-! ### abstraction function and well-formedness -/

/-- unsigned value stored under a key; an absent key counts as 0 -/
def valU (k : Key) (v : Option Bytes) : Nat := beNat ((gotten v).take k.width)

def recOf (b : Bucket) : Rec :=
  ⟨toS32 (valU .cap (b .cap)), toS64 (valU .upRate (b .upRate)), toS64 (valU .downRate (b .downRate)),
   toS64 (valU .upCredit (b .upCredit)), toS64 (valU .downCredit (b .downCredit)), toS64 (valU .expiry (b .expiry))⟩

def abs (s : Store) : AStore := AL.mapv recOf s

/-- every stored value was produced by the encoder of its key -/
def WFB (b : Bucket) : Prop := ∀ k bs, b k = some bs → ∃ v : Int, bs = enc k v
def WFS (s : Store) : Prop := ∀ p ∈ s, WFB p.2

/-- what the repaired tree guarantees about the four places (each of the two decoders has its own guard) -/
structure Good (F : Facts) : Prop where
  g8_absent : F.g8 0 = true
  g8_full : F.g8 8 = false
  g4_absent : F.g4 0 = true
  g4_full : F.g4 4 = false
  ret : F.postRetMismatch = true
  valve : ∀ up down, F.valveGuard up down = true ↔ (up ≤ 0 ∨ down ≤ 0)
  copy : F.listCopiesUID = true

theorem enc_length (k : Key) (v : Int) : (enc k v).length = k.width := by
  cases k <;> simp [enc, Key.width, beBytes_length]

theorem valU_none (k : Key) : valU k none = 0 := by simp [valU, gotten, beNat]

theorem valU_enc (k : Key) (v : Int) :
    valU k (some (enc k v)) = (match k with | .cap => toU32 v | _ => toU64 v) := by
  unfold valU gotten
  simp only
  rw [List.take_of_length_le (Nat.le_of_eq (enc_length k v))]
  cases k <;> simp only [enc, beNat_beBytes]
  · exact Nat.mod_eq_of_lt (toU32_lt v)
  all_goals exact Nat.mod_eq_of_lt (toU64_lt v)

theorem valU_cap_lt (b : Bucket) (h : WFB b) : valU .cap (b .cap) < 4294967296 := by
  cases hb : b .cap with
  | none => simp [valU_none]
  | some bs =>
    obtain ⟨v, rfl⟩ := h _ _ hb
    rw [valU_enc]; exact toU32_lt v

theorem WFB_empty : WFB Bucket.empty := by intro k bs h; simp [Bucket.empty] at h

theorem WFB_set (b : Bucket) (h : WFB b) (k : Key) (v : Int) : WFB (b.set k (enc k v)) := by
  intro k' bs hb
  simp only [Bucket.set] at hb
  by_cases e : k' = k
  · subst e; simp only [if_true, Option.some.injEq] at hb; exact ⟨v, hb.symm⟩
  · simp only [e, if_false] at hb; exact h _ _ hb

theorem WFS_lookup (s : Store) (h : WFS s) (uid : Bytes) (b : Bucket) (hb : s.lookup uid = some b) : WFB b :=
  h _ (AL.mem_of_lookup s uid b hb)

theorem WFS_erase (s : Store) (h : WFS s) (uid : Bytes) : WFS (s.erase uid) :=
  fun p hp => h p (AL.mem_erase s uid p hp)

theorem WFS_set (s : Store) (h : WFS s) (uid : Bytes) (b : Bucket) (hb : WFB b) : WFS (s.set uid b) := by
  intro p hp
  simp only [AL.set, List.mem_cons] at hp
  rcases hp with rfl | hp
  · exact hb
  · exact WFS_erase s h uid p hp

/-! ### decoding under the repaired guards -/

/-- a decoder of the key's width whose guard lets an absent value through as 0 and a complete one on to the
conversion returns the stored unsigned value -/
theorem decU_ok (g : Int → Bool) (k : Key) (h0 : g 0 = true) (hw : g k.width = false) (v : Option Bytes)
    (hv : ∀ bs, v = some bs → ∃ x : Int, bs = enc k x) : decU g k.width v = .ok (valU k v) := by
  cases v with
  | none => simp [decU, gotten, h0, valU, beNat]
  | some bs =>
    obtain ⟨x, rfl⟩ := hv bs rfl
    simp [decU, gotten, enc_length, hw, valU]

/-- every decode of a well-formed bucket that the readers perform -/
theorem decs_ok (F : Facts) (hF : Good F) (b : Bucket) (hb : WFB b) :
    dec32 F (b .cap) = .ok (valU .cap (b .cap)) ∧ dec64 F (b .upRate) = .ok (valU .upRate (b .upRate)) ∧
    dec64 F (b .downRate) = .ok (valU .downRate (b .downRate)) ∧
    dec64 F (b .upCredit) = .ok (valU .upCredit (b .upCredit)) ∧
    dec64 F (b .downCredit) = .ok (valU .downCredit (b .downCredit)) ∧
    dec64 F (b .expiry) = .ok (valU .expiry (b .expiry)) :=
  ⟨decU_ok F.g4 .cap hF.g4_absent hF.g4_full _ (hb .cap), decU_ok F.g8 .upRate hF.g8_absent hF.g8_full _ (hb .upRate),
   decU_ok F.g8 .downRate hF.g8_absent hF.g8_full _ (hb .downRate),
   decU_ok F.g8 .upCredit hF.g8_absent hF.g8_full _ (hb .upCredit),
   decU_ok F.g8 .downCredit hF.g8_absent hF.g8_full _ (hb .downCredit),
   decU_ok F.g8 .expiry hF.g8_absent hF.g8_full _ (hb .expiry)⟩

theorem readRec_ok (F : Facts) (hF : Good F) (b : Bucket) (hb : WFB b) : readRec F b = .ok (recOf b) := by
  simp only [readRec, decs_ok F hF b hb]
  rfl

end US
