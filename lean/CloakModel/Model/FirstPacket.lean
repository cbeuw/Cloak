import CloakModel.Model.TLSRecord
import CloakModel.Gen.FirstPacket

/-! Model of `internal/server/dispatcher.go`: `readFirstPacket` / `connReadLine` over a peer byte stream
that arrives in arbitrary chunks and may end (EOF or the 15 s read deadline) anywhere, the decision
`dispatchConnection` takes for a peer that is not an authorised Cloak client, and the relay `goWeb` sets up.

Constants, comparisons, slice bounds, "ReadFull or Read", the `redirOnErr` results, which branches call
`goWeb()` / `conn.Close()` and what `goWeb` writes to the target all come from `Gen.FirstPacket`.

Buffer model: the first-packet buffer is represented by `data` = the bytes read so far, in order
(`buf[:bufOffset]`); the bridging lemmas of `Props/C09.lean` show that every read of the source lands exactly
at `bufOffset` (contiguity), which is what makes this representation faithful. -/

namespace FP
open Rec Gen.FirstPacket

inductive Transport | none | tls | ws deriving DecidableEq, Repr
inductive ErrKind | ok | readErr | shortBuffer | unrecognised deriving DecidableEq, Repr

/-- results of `readFirstPacket` (+ whether it closed the connection itself) -/
structure Out where
  data : Bytes
  transport : Transport
  redirOnErr : Bool
  err : ErrKind
  closed : Bool
deriving DecidableEq, Repr

def bufLen : Nat := dcBufSize.toNat

def byteOf (v : Int) : UInt8 := UInt8.ofNat v.toNat

/-- `int(binary.BigEndian.Uint16(buf[fpLenLo:fpLenHi]))` of a (zero-initialised) buffer starting with `hdr` -/
def declaredLen (hdr : Bytes) : Nat :=
  let buf := hdr ++ List.replicate (fpLenHi.toNat - hdr.length) 0
  beNat ((buf.drop fpLenLo.toNat).take (sliceLen fpLenLo fpLenHi))

/-- the `case 0x47` loop: `connReadLine` byte by byte into `buf[bufOffset:]`, lines until `"\r\n"`.
`ls` = offset at which the current `connReadLine` call started (its `i` is `data.length - ls`, its
`len(buf)` is `bufLen - ls`).  `fuel` bounds the number of bytes (callers pass more than `bufLen`). -/
def wsScan : Nat → Nat → Bytes → Chunks → Out × Chunks
  | 0, _, data, cs => (⟨data, .ws, fpLineFullRedir, .shortBuffer, false⟩, cs)
  | fuel+1, ls, data, cs =>
    let i : Int := (data.length - ls : Nat)
    if crlLoop i ((bufLen - ls : Nat) : Int) then
      match readWith crlReadFull (sliceLen (crlReadLo i) (crlReadHi i)) cs with
      | none => (⟨data ++ cs.flatten, .ws, fpLineErrRedir, .readErr, fpLineErrCloses⟩, [])
      | some (b, rest) =>
        if b = [byteOf crlNewline] then
          -- connReadLine returns i+1; line := buf[ls : ls+i+1]; bufOffset += i+1
          let data' := data ++ b
          if (data'.drop ls).take (crlRetOnNewline i).toNat = fpTerminator.map UInt8.ofNat then
            (⟨data', .ws, true, .ok, false⟩, rest)
          else wsScan fuel data'.length data' rest
        else wsScan fuel ls (data ++ b) rest
    else (⟨data, .ws, fpLineFullRedir, .shortBuffer, false⟩, cs)

/-- linear-time implementation of `wsScan` for the compiled driver: the data is kept reversed with its length.
`wsScan_eq_fast` (kernel-checked) makes the compiler use it in place of `wsScan`; the theorems speak about `wsScan`. -/
def wsScanFast : Nat → Nat → Nat → Bytes → Chunks → Out × Chunks
  | 0, _, _, rdata, cs => (⟨rdata.reverse, .ws, fpLineFullRedir, .shortBuffer, false⟩, cs)
  | fuel+1, ls, n, rdata, cs =>
    let i : Int := (n - ls : Nat)
    if crlLoop i ((bufLen - ls : Nat) : Int) then
      match readWith crlReadFull (sliceLen (crlReadLo i) (crlReadHi i)) cs with
      | none => (⟨rdata.reverse ++ cs.flatten, .ws, fpLineErrRedir, .readErr, fpLineErrCloses⟩, [])
      | some (b, rest) =>
        if b = [byteOf crlNewline] then
          let rdata' := b.reverse ++ rdata
          let n' := n + b.length
          if ((rdata'.take (n' - ls)).reverse).take (crlRetOnNewline i).toNat = fpTerminator.map UInt8.ofNat then
            (⟨rdata'.reverse, .ws, true, .ok, false⟩, rest)
          else wsScanFast fuel n' n' rdata' rest
        else wsScanFast fuel ls (n + b.length) (b.reverse ++ rdata) rest
    else (⟨rdata.reverse, .ws, fpLineFullRedir, .shortBuffer, false⟩, cs)

theorem reverse_take_reverse {α} (l : List α) (k : Nat) : (l.reverse.take (l.length - k)).reverse = l.drop k := by
  rw [List.take_reverse, List.reverse_reverse]
  by_cases h : k ≤ l.length
  · congr 1; omega
  · rw [List.drop_of_length_le (by omega), List.drop_of_length_le (by omega)]

theorem wsScan_fast : ∀ (fuel ls : Nat) (data : Bytes) (cs : Chunks),
    wsScan fuel ls data cs = wsScanFast fuel ls data.length data.reverse cs := by
  intro fuel
  induction fuel with
  | zero => intro ls data cs; simp [wsScan, wsScanFast]
  | succ fuel ih =>
    intro ls data cs
    unfold wsScan wsScanFast
    -- with the reversed buffer and its length read back as `data ++ b`, the two bodies are the same term
    simp only [List.reverse_reverse, ← List.reverse_append, ← List.length_append, reverse_take_reverse, ih]

def wsScanImpl (fuel ls : Nat) (data : Bytes) (cs : Chunks) : Out × Chunks :=
  wsScanFast fuel ls data.length data.reverse cs

@[csimp] theorem wsScan_eq_fast : @wsScan = @wsScanImpl := by
  funext fuel ls data cs; exact wsScan_fast fuel ls data cs

/-- `readFirstPacket(conn, buf, 15s)`; the end of the chunk list is EOF or the deadline -/
def readFirstPacket (cs : Chunks) : Out × Chunks :=
  match readWith fpFirstFull (sliceLen (fpFirstLo 0 0) (fpFirstHi 0 0)) cs with
  | none => (⟨[], .none, fpFirstErrRedir, .readErr, fpFirstErrCloses⟩, [])
  | some (b0, rest) =>
    let first : UInt8 := match b0 with | b :: _ => b | [] => 0   -- buf[0] of a fresh buffer
    let off := fpInitOffset
    if (first.toNat : Int) = fpTLSByte then
      match readWith fpHdrFull (sliceLen (fpHdrLo off 0) (fpHdrHi off 0)) rest with
      | none => (⟨b0 ++ rest.flatten, .tls, fpHdrErrRedir, .readErr, fpHdrErrCloses⟩, [])
      | some (h, rest2) =>
        let hdr := b0 ++ h
        let dl := declaredLen hdr
        if fpOversize dl bufLen then (⟨hdr, .tls, fpOversizeRedir, .shortBuffer, false⟩, rest2)
        else
          match readWith fpBodyFull (sliceLen (fpBodyLo off dl) (fpBodyHi off dl)) rest2 with
          | none => (⟨hdr ++ rest2.flatten, .tls, fpBodyErrRedir, .readErr, fpBodyErrCloses⟩, [])
          | some (body, rest3) => (⟨hdr ++ body, .tls, true, .ok, false⟩, rest3)
    else if (first.toNat : Int) = fpWSByte then
      wsScan (bufLen + 1) off.toNat b0 rest
    else (⟨b0, .none, fpDefaultRedir, .unrecognised, false⟩, rest)

/-! ### what `dispatchConnection` does next -/

/-- outcome of everything between a complete first packet and the decision (abstract: `AuthFirstPacket`,
`MakeObfuscator`, the admin gate, the `ProxyBook` lookup, the user lookup, `GetSession`) -/
inductive Verdict | authFail | obfsFail | admin | badMethod | badUser | sessErr | proxy
deriving DecidableEq, Repr

inductive Action
  | web        -- goWeb(); return
  | close      -- conn.Close(); return
  | drop       -- return (neither relayed nor closed)
  | handshake  -- finishHandshake: the server answers as Cloak (admin / proxy — outside C09)
  | other      -- a branch body the extractor could not classify
deriving DecidableEq, Repr

def actionOfCode : Nat → Action
  | 1 => .web
  | 2 => .close
  | 3 => .drop
  | _ => .other

def decideAction (o : Out) (v : Verdict) : Action :=
  if o.err ≠ .ok then
    (if o.redirOnErr then actionOfCode dcReadErrRedirAction else actionOfCode dcReadErrElseAction)
  else match v with
    | .authFail => actionOfCode dcAuthErrAction
    | .obfsFail => actionOfCode dcObfsErrAction
    | .admin => .handshake
    | .badMethod => actionOfCode dcBadMethodAction
    | .badUser => actionOfCode dcBadUserAction
    | .sessErr => actionOfCode dcSessErrAction
    | .proxy => .handshake

/-- what `goWeb` writes to the target first: `webConn.Write(<slice of data>)` -/
def goWebWrite (data : Bytes) : Bytes :=
  (data.take (goWebWriteHi data.length).toNat).drop (goWebWriteLo data.length).toNat

/-- later events of the connection, each processed to quiescence before the next.  `peerEOF`: the peer ends ITS
sending direction (a TCP FIN — a half close, or a full close: the server's `Read` cannot tell them apart) -/
inductive Ev | peer (b : Bytes) | target (b : Bytes) | peerEOF | targetEOF
deriving DecidableEq, Repr

/-- how the redirect target behaves when `goWeb` reaches for it -/
inductive Target
  | up          -- the dial succeeds and the first write is taken
  | dialFails   -- `RedirDialer.Dial` returns an error (target down / restarting)
  | writeFails  -- the dial succeeds, the first `webConn.Write(data)` returns an error (reset)
deriving DecidableEq, Repr

structure Relay where
  dialed : Bool             -- `RedirDialer.Dial` was called
  toTarget : List Bytes     -- writes to the target conn, in order
  toPeer : List Bytes       -- writes to the peer conn, in order
  «open» : Bool             -- both `common.Copy` loops still running
  peerClosed : Bool         -- `Close()` was called on the peer conn
  targetClosed : Bool       -- `Close()` was called on the target conn
deriving DecidableEq, Repr

/-- the two `common.Copy` goroutines (`defer func() { src.Close(); dst.Close() }()`): forward a chunk while open; the
first EOF on either side ends BOTH directions and closes both conns — a half close of the peer is not passed on, and
what the target sends afterwards is lost -/
def relayStep (r : Relay) : Ev → Relay
  | .peer b => if r.open then { r with toTarget := r.toTarget ++ [b] } else r
  | .target b => if r.open then { r with toPeer := r.toPeer ++ [b] } else r
  | .peerEOF => if r.open then { r with «open» := false, peerClosed := true, targetClosed := true } else r
  | .targetEOF => if r.open then { r with «open» := false, peerClosed := true, targetClosed := true } else r

/-- the whole connection: peer chunks `cs` (then silence until the deadline, or EOF), the verdict on a complete
first packet, the behaviour of the redirect target, later events.  The three Booleans say what `goWeb` does at its
two fault points (`run` instantiates them with the extracted facts): does the `Dial` error branch close the peer
conn; does the `Write` error branch close the peer conn / the half-open target conn. -/
def runWith (dialErrClosesPeer writeErrClosesPeer writeErrClosesTarget : Bool)
    (cs : Chunks) (v : Verdict) (tg : Target) (evs : List Ev) : Action × Relay :=
  let o := (readFirstPacket cs).1
  let rest := (readFirstPacket cs).2
  match decideAction o v with
  | .web =>
    match tg with
    | .up =>
      -- dial; webConn.Write(goWebWrite data); then Copy forwards what is already waiting and what comes later
      (.web, evs.foldl relayStep ⟨true, goWebWrite o.data :: rest, [], true, false, false⟩)
    | .dialFails =>
      (if dialErrClosesPeer then .close else .drop, ⟨true, [], [], false, dialErrClosesPeer, false⟩)
    | .writeFails =>
      (if writeErrClosesPeer then .close else .drop, ⟨true, [], [], false, writeErrClosesPeer, writeErrClosesTarget⟩)
  | .close => (.close, ⟨false, [], [], false, true, false⟩)
  | a => (a, ⟨false, [], [], false, false, false⟩)

def run (cs : Chunks) (v : Verdict) (tg : Target) (evs : List Ev) : Action × Relay :=
  runWith goWebDialErrClosesPeer goWebWriteErrClosesPeer goWebWriteErrClosesTarget cs v tg evs

end FP
