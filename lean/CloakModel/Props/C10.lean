import CloakModel.Model.TLSWire
import CloakModel.Lemmas.TLSWireCore
import CloakModel.Props.C04

/-! # C10 — Everything on the wire in direct mode is a well-formed TLS record stream

`Model/TLSWire.lean` has (1) a mirror of the Go code that writes to the wire, built from the literals and
slice bounds extracted from `TLSAux.go`, `common/tls.go`, `client/TLS.go` (`Gen.Wire`), and (2) an independent
validator written from RFC 8446.  Theorems: the server's reply always satisfies the validator and echoes the
session id (`c10_reply_valid`); every `TLSConn.Write` emits exactly one well-formed application-data record and
any sequence of them is a well-formed record stream, also after the server flight / the ClientHello record
(`c10_appdata`, `c10_server_stream`, `c10_client_stream`); every frame the multiplexer hands to `TLSConn.Write`
is accepted by it and gives a record of 23..16401 bytes (`c10_frames_fit`, from `C04.c04_size`).
`c10_hello` is partial: the ClientHello body is produced by uTLS (third party); what is proved is the record
around it, and the validator is applied to real uTLS output by the harness. -/

namespace C10
open TLSWire Gen.Wire

/-! ## 1. Structural facts -/

/-- record-layer helpers have the shape typ | version | uint16 length | body; `TLSConn.Write` appends the
big-endian length and the input to a pooled 3-byte prefix (23, 0x0303), performs ONE underlying write and
resets the buffer; the responder writes the reply once and only then wraps the connection; the client wraps
the ClientHello with `AddRecordLayer(ch, Handshake, VersionTLS11)`, writes it once and then wraps the connection;
the ServerHello pieces are concatenated in index order and get the ClientHello's own session id -/
theorem gen_structure :
    shConcatInOrder = true ∧ replyHelloArgs = true ∧ replyOrder = true ∧ addRecordLayerShape = true ∧
    responderWritesReplyThenWraps = true ∧ responderGetsClientSid = true ∧ ctxTagIsSidThenKeyShare = true ∧
    tlsMsgLenIsLen = true ∧ tlsWriteLenBytes = true ∧ tlsWriteAppendsInput = true ∧ tlsWriteConnWrites = 1 ∧
    tlsWriteWritesBuf = true ∧ tlsWriteResets = true ∧ tlsWriteOrder = true ∧ tlsPoolPrefix = true ∧
    commonAddRecordLayerShape = true ∧ Gen.Wire.clientHelloRecord = true ∧ clientHelloSid32AndSNI = true ∧
    recordLayerLength = 5 ∧ appDataMaxLengthClient = appDataMaxLengthServer := by
  and_intros <;> rfl

/-- the literals: handshake 22 / 0x0301 for the ClientHello record, 22 / 20 / 23 and 0x0303 for the reply,
23 / 0x0303 for application data; cert lengths are positive and small -/
theorem gen_literals :
    handshakeType = 22 ∧ versionTLS11 = 0x0301 ∧ applicationDataType = 23 ∧ versionTLS13 = 0x0303 ∧
    replyVersion = [3, 3] ∧ replyHelloType = [0x16] ∧ replyCCSType = [0x14] ∧ replyCCSBody = [1] ∧ replyCertType = [0x17] ∧
    certLengths.all (fun n => decide (0 < n ∧ n ≤ 16640)) = true := by decide

/-- the server answers only a ClientHello whose session id has 32 bytes: `sessionId ++ keyShare` must have 64
bytes and the key share 32 -/
theorem c10_sid32 (sidLen ksLen : Nat) (h1 : ctxTagBad ((sidLen + ksLen : Nat) : Int) = false) (h2 : keyShareBad (ksLen : Int) = false) :
    sidLen = 32 := by
  unfold ctxTagBad at h1
  unfold keyShareBad at h2
  simp only [decide_eq_false_iff_not, ne_eq, Decidable.not_not] at h1 h2
  omega

/-! ## 2. The server flight -/

theorem keyExchange_length (enc rand4 : Bytes) (he : enc.length = 48) (hr : rand4.length = 4) :
    (keyExchange enc rand4).length = 32 := by
  unfold keyExchange Codec.putAt
  simp [shKeyExchangeLen, shKeyExchangeEncLo, shKeyExchangeEncHi, shKeyExchangeRandLo, shKeyExchangeRandHi, he, hr]

theorem helloRandom_length (nonce enc : Bytes) (hn : nonce.length = 12) (he : enc.length = 48) :
    (helloRandom nonce enc).length = 32 := by
  unfold helloRandom
  simp [shRandomNonceLo, shRandomNonceHi, shRandomEncLo, shRandomEncHi, hn, he]

theorem sh_shape (sid nonce enc rand4 : Bytes) :
    composeServerHello sid nonce enc rand4 =
      some ([2, 0, 0, 0x76, 3, 3] ++ (helloRandom nonce enc ++ (0x20 :: (sid ++ ([0x13, 0x02, 0, 0, 0x2e, 0, 0x33, 0, 0x24, 0, 0x1d, 0, 0x20] ++
        (keyExchange enc rand4 ++ [0, 0x2b, 0, 2, 3, 4])))))) := by
  unfold composeServerHello
  simp [shPieces, concatPieces, piece]

theorem parse_sh (R sid KX : Bytes) (hR : R.length = 32) (hs : sid.length = 32) (hK : KX.length = 32) :
    parseServerHello ([2, 0, 0, 0x76, 3, 3] ++ (R ++ (0x20 :: (sid ++ ([0x13, 0x02, 0, 0, 0x2e, 0, 0x33, 0, 0x24, 0, 0x1d, 0, 0x20] ++
        (KX ++ [0, 0x2b, 0, 2, 3, 4])))))) =
      some ⟨R, sid, [0x13, 0x02], [0], [(0x33, 0 :: 0x1d :: 0 :: 0x20 :: KX), (0x2b, [3, 4])]⟩ := by
  simp only [List.cons_append, List.nil_append, parseServerHello]
  have hlen : (R ++ 0x20 :: (sid ++ 0x13 :: 0x02 :: 0 :: 0 :: 0x2e :: 0 :: 0x33 :: 0 :: 0x24 :: 0 :: 0x1d :: 0 :: 0x20 :: (KX ++ [0, 0x2b, 0, 2, 3, 4]))).length = 116 := by
    simp [hR, hs, hK]
  rw [if_neg (by rw [hlen]; decide), if_neg (by rw [hlen]; decide)]
  rw [List.take_left' hR, List.drop_left' hR]
  simp only
  rw [if_neg (by simp [hs, hK])]
  have h32 : (0x20 : UInt8).toNat = 32 := by decide
  rw [h32, List.take_left' hs, List.drop_left' hs]
  simp only
  rw [if_neg (by decide), if_neg (by simp [hK])]
  simp [parseExts, hK, List.take_left' hK, List.drop_left' hK]

theorem record_shape (t v0 v1 : UInt8) (body : Bytes) :
    record [t] [v0, v1] body = t :: v0 :: v1 :: UInt8.ofNat (body.length / 256) :: UInt8.ofNat body.length :: body := by
  simp [record, slot, be16]

theorem record_append (t v0 v1 : UInt8) (body rest : Bytes) :
    record [t] [v0, v1] body ++ rest = t :: v0 :: v1 :: UInt8.ofNat (body.length / 256) :: UInt8.ofNat body.length :: (body ++ rest) := by
  simp [record, slot, be16]

/-- the flight in front of anything: three more records, the first a ServerHello the validator accepts -/
theorem reply_records (sid nonce enc rand4 cert : Bytes) (hs : sid.length = 32) (hn : nonce.length = 12)
    (he : enc.length = 48) (hr : rand4.length = 4) (hc1 : cert.length ≤ 16640) :
    ∃ reply sh h, composeReply sid nonce enc rand4 cert = some reply ∧
      parseServerHello sh = some h ∧ validServerHello sid h = true ∧
      ∀ out, records (reply ++ out) =
        (records out).map (⟨0x16, [3, 3], sh⟩ :: ⟨0x14, [3, 3], [1]⟩ :: ⟨0x17, [3, 3], cert⟩ :: ·) := by
  have hR := helloRandom_length nonce enc hn he
  have hK := keyExchange_length enc rand4 he hr
  have hparse := parse_sh (helloRandom nonce enc) sid (keyExchange enc rand4) hR hs hK
  unfold composeReply
  rw [sh_shape]
  generalize hsh : ([2, 0, 0, 0x76, 3, 3] ++ (helloRandom nonce enc ++ (0x20 :: (sid ++ ([0x13, 0x02, 0, 0, 0x2e, 0, 0x33, 0, 0x24, 0, 0x1d, 0, 0x20] ++
        (keyExchange enc rand4 ++ [0, 0x2b, 0, 2, 3, 4])))))) = sh at hparse ⊢
  have hshl : sh.length = 122 := by rw [← hsh]; simp [hR, hs, hK]
  refine ⟨_, sh, _, rfl, hparse, by simp [validServerHello, findExt, hs, hR, hK], fun out => ?_⟩
  simp only [replyHelloType, replyVersion, replyCCSType, replyCCSBody, replyCertType, List.append_assoc]
  rw [record_append, records_cons _ _ _ sh _ (by omega), record_append, records_cons _ _ _ [1] _ (by decide),
    record_append, records_cons _ _ _ cert _ (by omega), Option.map_map, Option.map_map]
  rfl

/-- **C10 (server flight).** For every 32-byte session id (the only kind the server answers, `c10_sid32`), every
nonce, encrypted key, random draw and every cert filler of 1..16640 bytes, what `composeReply` returns is exactly:
a ServerHello record (22, 0x0303) whose body is a well-formed ServerHello echoing the session id with suite
0x1302, an X25519 key share of 32 bytes and supported_versions 0x0304; a ChangeCipherSpec record; one
application-data record. -/
theorem c10_reply_valid (sid nonce enc rand4 cert : Bytes) (hs : sid.length = 32) (hn : nonce.length = 12) (he : enc.length = 48)
    (hr : rand4.length = 4) (hc0 : 0 < cert.length) (hc1 : cert.length ≤ 16640) :
    ∃ reply, composeReply sid nonce enc rand4 cert = some reply ∧ validServerFlight sid reply = true := by
  obtain ⟨reply, sh, h, hreply, hparse, hvalid, hrec⟩ := reply_records sid nonce enc rand4 cert hs hn he hr hc1
  have hrec := hrec []
  rw [List.append_nil, records_nil] at hrec
  refine ⟨reply, hreply, ?_⟩
  unfold validServerFlight validServerStream
  rw [hrec]
  simp [hparse, hvalid, validAppRec, hc0, hc1]

/-! ## 3. Application data -/

theorem gen_tlsTooLong (n : Nat) : tlsTooLong n = decide (16640 < n) := by
  unfold tlsTooLong; rw [Bool.eq_iff_iff]; gen_bool

/-- what one `TLSConn.Write` puts on the wire, in front of whatever follows -/
theorem tlsWrite_shape (inp out : Bytes) (h : tlsWrite inp = some out) (rest : Bytes) :
    inp.length ≤ 16640 ∧
    out ++ rest = 23 :: 3 :: 3 :: UInt8.ofNat (inp.length / 256) :: UInt8.ofNat inp.length :: (inp ++ rest) := by
  unfold tlsWrite at h
  rw [gen_tlsTooLong] at h
  split at h
  · cases h
  · rename_i hl
    have hl' : inp.length ≤ 16640 := by simpa using hl
    have ho := Option.some.inj h
    rw [← ho]
    have e1 : UInt8.ofNat applicationDataType.toNat = 23 := by decide
    have e2 : UInt8.ofNat (versionTLS13.toNat / 256) = 3 := by decide
    have e3 : UInt8.ofNat versionTLS13.toNat = 3 := by decide
    rw [e1, e2, e3]
    exact ⟨hl', by simp⟩

/-- the byte stream produced by a sequence of `TLSConn.Write` calls (`none` if one is refused) -/
def wire : List Bytes → Option Bytes
  | [] => some []
  | m :: ms => do
    let r ← tlsWrite m
    let rs ← wire ms
    pure (r ++ rs)

theorem wire_records : ∀ (msgs : List Bytes) (out : Bytes), wire msgs = some out →
    records out = some (msgs.map (fun m => ⟨23, [3, 3], m⟩)) ∧ ∀ m ∈ msgs, m.length ≤ 16640 := by
  intro msgs
  induction msgs with
  | nil => intro out h; simp [wire] at h; subst h; exact ⟨records_nil, by simp⟩
  | cons m ms ih =>
    intro out h
    simp only [wire, Option.bind_eq_bind] at h
    cases hw : tlsWrite m with
    | none => rw [hw] at h; simp at h
    | some r =>
      cases hws : wire ms with
      | none => rw [hw, hws] at h; simp at h
      | some rs =>
        rw [hw, hws] at h
        simp at h
        subst h
        obtain ⟨hlen, hshape⟩ := tlsWrite_shape m r hw rs
        obtain ⟨ihr, ihl⟩ := ih rs hws
        rw [hshape, records_cons _ _ _ m rs (by omega), ihr]
        refine ⟨by simp, ?_⟩
        intro x hx
        simp only [List.mem_cons] at hx
        rcases hx with rfl | hx
        · exact hlen
        · exact ihl x hx

/-- **C10 (application data).** Whatever non-empty messages are written through a `TLSConn`, in any number, the
bytes handed to the underlying connection form a sequence of application-data records (type 23, version 3.3,
0 < length ≤ 2^14+256), one record per write, nothing else. -/
theorem c10_appdata (msgs : List Bytes) (out : Bytes) (hne : ∀ m ∈ msgs, 0 < m.length) (hw : wire msgs = some out) :
    validAppStream out = true := by
  obtain ⟨hr, hl⟩ := wire_records msgs out hw
  unfold validAppStream
  rw [hr]
  simp only [List.all_map, List.all_eq_true]
  intro m hm
  simp [validAppRec, hne m hm, hl m hm]

/-- the whole server side: flight, then application data -/
theorem c10_server_stream (sid nonce enc rand4 cert : Bytes) (hs : sid.length = 32) (hn : nonce.length = 12) (he : enc.length = 48)
    (hr : rand4.length = 4) (hc0 : 0 < cert.length) (hc1 : cert.length ≤ 16640)
    (msgs : List Bytes) (out : Bytes) (hne : ∀ m ∈ msgs, 0 < m.length) (hw : wire msgs = some out) :
    ∃ reply, composeReply sid nonce enc rand4 cert = some reply ∧ validServerStream sid (reply ++ out) = true := by
  obtain ⟨hrm, hl⟩ := wire_records msgs out hw
  obtain ⟨reply, sh, h, hreply, hparse, hvalid, hrec⟩ := reply_records sid nonce enc rand4 cert hs hn he hr hc1
  refine ⟨reply, hreply, ?_⟩
  unfold validServerStream
  rw [hrec, hrm]
  simp only [Option.map_some, hparse, hvalid, List.all_map]
  simp [validAppRec, hc0, hc1]
  intro x hx
  exact ⟨hne x hx, hl x hx⟩

/-- **C10 (frames fit).** Every frame the multiplexer produces for a payload within the per-frame maximum of the
limit both endpoints configure is accepted by `TLSConn.Write` and becomes one record of 23..16401 bytes. -/
theorem c10_frames_fit (C : Codec.Crypto) (hL : Codec.Lawful C) (key : Bytes) (f : Codec.Frame) (bufLen padDraw : Nat) (rnd msg : Bytes)
    (hdraw : (padDraw : Int) < Gen.Codec.padBound (Codec.tagLenOf C))
    (hrnd : rnd.length = Codec.padLenOf f padDraw + Codec.tagLenOf C)
    (hp : (f.payload.length : Int) ≤ Gen.Codec.maxStreamUnitWrite appDataMaxLengthClient)
    (hok : Codec.obfuscate C key f bufLen padDraw rnd = .ok msg) :
    ∃ out, tlsWrite msg = some out ∧ records out = some [⟨23, [3, 3], msg⟩] ∧ 23 ≤ msg.length ∧ msg.length ≤ 16401 := by
  obtain ⟨_, h2, h3⟩ := C04.c04_size C hL key f bufLen padDraw rnd msg appDataMaxLengthClient hdraw hrnd hp hok
  have hlim : appDataMaxLengthClient = 16401 := by decide
  rw [hlim] at h2
  have hle : msg.length ≤ 16401 := by omega
  have hw : ∃ out, tlsWrite msg = some out := by
    unfold tlsWrite
    rw [gen_tlsTooLong, if_neg (by simp; omega)]
    exact ⟨_, rfl⟩
  obtain ⟨out, ho⟩ := hw
  refine ⟨out, ho, ?_, h3, hle⟩
  have := wire_records [msg] out (by simp [wire, ho])
  simpa using this.1

/-! ## 4. The client's first flight (partial: the ClientHello body comes from uTLS) -/

/-- **C10 (ClientHello record, partial).** The first thing a client writes is exactly one handshake record
(type 22, version 0x0301) whose body is the uTLS-built ClientHello, followed by application-data records only.
That the body itself is a structurally valid ClientHello with SNI, 32-byte session id and X25519 share is
what `TLSWire.clientFields` checks on real uTLS output in the harness; it is not provable here. -/
theorem c10_hello (ch : Bytes) (hch : ch.length < 65536) (msgs : List Bytes) (out : Bytes) (hw : wire msgs = some out) :
    records (TLSWire.clientHelloRecord ch ++ out) = some (⟨22, [3, 1], ch⟩ :: msgs.map (fun m => ⟨23, [3, 3], m⟩)) := by
  obtain ⟨hrm, _⟩ := wire_records msgs out hw
  unfold TLSWire.clientHelloRecord
  have e1 : UInt8.ofNat handshakeType.toNat = 22 := by decide
  have e2 : UInt8.ofNat (versionTLS11.toNat / 256) = 3 := by decide
  have e3 : UInt8.ofNat versionTLS11.toNat = 1 := by decide
  rw [e1, e2, e3]
  simp only [List.cons_append, List.nil_append]
  rw [records_cons _ _ _ ch out hch, hrm]
  rfl

/-- if the validator accepts the client's side, the three fields the server needs are there with the right sizes -/
theorem c10_hello_fields (b : Bytes) (f : ClientFields) (h : validClientStream b = some f) :
    f.sid.length = 32 ∧ f.share.length = 32 ∧ 0 < f.sni.length := by
  unfold validClientStream at h
  split at h
  · rename_i r0 rest hr
    split at h
    · rename_i cf hcf
      split at h
      · cases h
        unfold clientFields at hcf
        split at hcf
        · cases hcf
        · split at hcf
          · cases hcf
          · rename_i hh hp
            split at hcf
            · rename_i sn ks h1 h2
              split at hcf
              · rename_i name share hn hsx
                split at hcf
                · rename_i hcond
                  cases hcf
                  refine ⟨hcond.1, hcond.2.1, ?_⟩
                  unfold sniName at hn
                  split at hn
                  · split at hn
                    · rename_i hc
                      cases hn
                      exact hc.2.2
                    · cases hn
                  · cases hn
                · cases hcf
              · cases hcf
            · cases hcf
      · cases h
    · cases h
  · cases h

-- non-vacuity: a concrete reply (32-byte sid, cert of 27 bytes) followed by two writes
set_option maxRecDepth 16000 in
example :
    let sid : Bytes := List.replicate 32 0xab
    (match composeReply sid (List.replicate 12 1) (List.replicate 48 2) [9, 9, 9, 9] (List.replicate 27 5), wire [[1, 2, 3], List.replicate 300 7] with
     | some reply, some out => validServerFlight sid reply && validServerStream sid (reply ++ out) && reply.length == 5 + 122 + 6 + 5 + 27
     | _, _ => false) = true := by
  decide

end C10

#print axioms C10.c10_reply_valid
#print axioms C10.c10_appdata
#print axioms C10.c10_server_stream
#print axioms C10.c10_frames_fit
#print axioms C10.c10_hello
