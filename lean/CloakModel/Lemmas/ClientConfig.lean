import CloakModel.Model.ClientConfig

/-! Lemmas about Model/ClientConfig: the switch lookup `caseOf`, and what `ProcessRawConfig` returns when it returns a
configuration. Nothing here looks at the value of a `Gen` fact, so the lemmas hold on every tree on which the model builds. -/
namespace CC

/-! ### `caseOf` (a Go `switch` over string labels) -/

theorem caseOf_ne_none_iff {α} (t : List (String × α)) (s : String) : caseOf t s ≠ none ↔ s ∈ t.map (·.1) := by
  induction t with
  | nil => simp [caseOf]
  | cons p r ih => by_cases h : s = p.1 <;> simp [caseOf, h, ih]

/-- two adjacent labels with the same value may change places -/
theorem caseOf_swap_same {α} (k₁ k₂ : String) (v : α) (r : List (String × α)) (s : String) :
    caseOf ((k₁, v) :: (k₂, v) :: r) s = caseOf ((k₂, v) :: (k₁, v) :: r) s := by
  by_cases h₁ : s = k₁ <;> by_cases h₂ : s = k₂ <;> simp [caseOf, h₁, h₂]

/-- a switch with a default branch, label by label -/
theorem caseOf_getD_cons {α} (k : String) (v : α) (r : List (String × α)) (d : α) (s : String) :
    (caseOf ((k, v) :: r) s).getD d = if s = k then v else (caseOf r s).getD d := by
  by_cases h : s = k <;> simp [caseOf, h]

theorem caseOf_getD_nil {α} (d : α) (s : String) : (caseOf [] s).getD d = d := rfl

/-- the two `switch … default` of `transportOf` are `Option.getD` (a `match` written in a statement would be another
matcher than the model's, so the model's is named) -/
theorem transportOf.match_getD (o : Option String) (d : String) :
    transportOf.match_1 (fun _ => String) o (fun m => m) (fun _ => d) = o.getD d := by
  cases o <;> rfl

/-! ### `ProcessRawConfig` -/

theorem ok_of_ite_error {ε α} {p : Prop} [Decidable p] {e : ε} {x : Except ε α} {v : α}
    (h : (if p then .error e else x) = .ok v) : x = .ok v := by
  split at h; cases h; exact h

/-- an accepted configuration is the record of the model's field functions -/
theorem processRawK_ok {ka : RawConfig → Int} {lower : String → String} {raw : RawConfig} {c : Cfg}
    (h : processRawK ka lower raw = .ok c) :
    ∃ enc, c = {
      localAddr := joinHostPort raw.localHost raw.localPort, timeout := timeoutOf raw, mockDomainList := mockList raw,
      singleplex := (numConnOf raw).2, numConn := (numConnOf raw).1, keepAlive := ka raw,
      remoteAddr := joinHostPort raw.remoteHost raw.remotePort, transport := transportOf lower raw, uid := raw.uid,
      proxyMethod := raw.proxyMethod, encryptionMethod := enc, unordered := raw.udp, serverPubKey := raw.publicKey,
      mockDomain := raw.serverName } := by
  unfold processRawK at h
  -- the five early returns before the method switch, the switch, the four after it
  have h := ok_of_ite_error (ok_of_ite_error (ok_of_ite_error (ok_of_ite_error (ok_of_ite_error h))))
  split at h
  · cases h
  · next enc _ =>
    have h := ok_of_ite_error (ok_of_ite_error (ok_of_ite_error (ok_of_ite_error h)))
    exact ⟨enc, (Except.ok.inj h).symm⟩

end CC
