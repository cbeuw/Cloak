import CloakModel.Lemmas.UserStoreSim

/-! # C18 — User database and admin API act as a keyed store and never crash the server

The executable model `US.*` (`Model/UserStore.lean`, what the driver runs against the real bbolt-backed
code) is parametric in `US.Facts`, the four places where the pinned tree `e2cb346` is defective:
the length guards of the two decoders applied to `bucket.Get(..)`, the `return` after the
"UID mismatch" error, the refusal of non-positive rates before `mux.MakeValve`, and whose memory the
UID of a listed record is (a copy, or the key slice of the finished bbolt transaction).

* `gen_structure` — the structural facts of `localmanager.go` / `api_router.go` the model relies on.
* `gen_good` — the facts extracted from the tree being checked are the repaired ones.  **This is the
  obligation that fails on the pinned tree** (four genuine defects, see the witnesses (a)–(d) at the end).
* `c18_refines`, `c18_rejected_unchanged`, `c18_deleted_absent`, `c18_read_your_writes`,
  `c18_no_panic` — the property, for every operation sequence, proved from `gen_good`.
* `c18_list_result_stable` — the value a `list` returned still reads the same after any later operations.
* `pinned_*` — `decide` witnesses that the explicit pinned fact values break each statement; the
  harness replays the same three inputs on the real code. -/
set_option linter.unusedSimpArgs false
set_option linter.unusedVariables false

namespace C18
open US GoInt

/-! ## 1. Facts regenerated from the source -/

/-- keys, widths and "only present fields are written"; which keys each reader decodes, with which
decoder and conversion; order of the checks; the upload loop; the handlers' error sites, which of
them `return`, and which UID each manager call receives. -/
theorem gen_structure :
    Gen.Store.writeFields = Key.all.map (fun k => (k.name, k.name, k.width)) ∧
    Gen.Store.writeOtherPuts = 0 ∧ Gen.Store.writeCreatesBucketFromBodyUID = true ∧
    Gen.Store.decWidth_u64 = 8 ∧ Gen.Store.decWidth_u32 = 4 ∧
    Gen.Store.readsGetUserInfo = ["SessionsCap:u32:int32.JustInt32", "UpRate:u64:int64.JustInt64",
      "DownRate:u64:int64.JustInt64", "UpCredit:u64:int64.JustInt64", "DownCredit:u64:int64.JustInt64",
      "ExpiryTime:u64:int64.JustInt64"] ∧
    Gen.Store.readsListAllUsers = Gen.Store.readsGetUserInfo ∧
    Gen.Store.readsAuthenticateUser = ["UpRate:u64:int64", "DownRate:u64:int64", "UpCredit:u64:int64",
      "DownCredit:u64:int64", "ExpiryTime:u64:int64"] ∧
    Gen.Store.readsAuthoriseNewSession = ["SessionsCap:u32:int", "UpCredit:u64:int64", "DownCredit:u64:int64",
      "ExpiryTime:u64:int64"] ∧
    Gen.Store.readsUploadStatus = ["UpCredit:u64:int64", "DownCredit:u64:int64", "ExpiryTime:u64:int64"] ∧
    Gen.Store.otherGetsGetUserInfo = 0 ∧ Gen.Store.otherGetsListAllUsers = 0 ∧ Gen.Store.otherGetsAuthenticateUser = 0 ∧
    Gen.Store.otherGetsAuthoriseNewSession = 0 ∧ Gen.Store.otherGetsUploadStatus = 0 ∧
    Gen.Store.authOrder = ["err", "ErrNoUpCredit", "ErrNoDownCredit", "ErrUserExpired", "ok"] ∧
    Gen.Store.authzOrder = ["err", "ErrNoUpCredit", "ErrNoDownCredit", "ErrUserExpired", "ErrSessionsCapReached", "ok"] ∧
    Gen.Store.authzPads16 = true ∧
    Gen.Store.uploadSeq = ["if bucket == nil", "continue", "get UpCredit", "if newUp <= 0", "put UpCredit newUp",
      "get DownCredit", "if newDown <= 0", "put DownCredit newDown", "get ExpiryTime",
      "if manager.world.Now().Unix() > expiry"] ∧
    Gen.Store.uploadMsgs = ["User no longer exists", "No upload credit left", "No download credit left", "User has expired"] ∧
    Gen.Store.uploadInOneUpdateTx = true ∧ Gen.Store.deleteIsDeleteBucket = true ∧
    Gen.Store.postSiteNames = ["empty", "b64", "json", "mismatch", "mgr"] ∧
    Gen.Store.postRet_empty = true ∧ Gen.Store.postRet_b64 = true ∧ Gen.Store.postRet_json = true ∧
    Gen.Store.postComparesUrlWithBody = true ∧ Gen.Store.postWritesDecodedBody = true ∧
    Gen.Store.getSiteNames = ["empty", "b64", "notfound", "marshal"] ∧
    Gen.Store.getRet_b64 = true ∧ Gen.Store.getRet_notfound = true ∧ Gen.Store.getReadsUrlUID = true ∧
    Gen.Store.delSiteNames = ["empty", "b64", "mgr"] ∧
    Gen.Store.delRet_empty = true ∧ Gen.Store.delRet_b64 = true ∧ Gen.Store.delDeletesUrlUID = true ∧
    Gen.Store.listSiteNames = ["mgr", "marshal"] ∧ Gen.Store.listRet_mgr = true ∧
    Gen.Store.valveCapacityIsRate = true ∧ Gen.Store.getUIDIsCallersArgument = true := by
  and_intros <;> rfl

/-- **The tree being checked is repaired at the four places**: an absent key decodes as 0 without
indexing, a complete value is decoded, the "UID mismatch" error returns, non-positive rates are
refused before the token buckets are built, and the UID of a listed record is a copy of the
transaction's key slice.  (Fails on the pinned tree.) -/
theorem gen_good : Good genFacts := by
  refine ⟨?_, ?_, ?_, ?_, ?_, ?_, ?_⟩
  · show Gen.Store.decGuard_u64 0 = true; decide
  · show Gen.Store.decGuard_u64 8 = false; decide
  · show Gen.Store.decGuard_u32 0 = true; decide
  · show Gen.Store.decGuard_u32 4 = false; decide
  · show Gen.Store.postRet_mismatch = true; decide
  · intro up down
    show Gen.Store.valveGuard up down = true ↔ _
    unfold Gen.Store.valveGuard
    gen_bool
  · show Gen.Store.listUIDIsCopy = true; decide

/-! ## 2. The abstract specification is a keyed store (what "exactly what the sequence implies" means) -/

/-- a successful create/update: the record of that UID has the mentioned fields set and the others
kept (all-zero if the user is new); every other UID is untouched -/
theorem spec_post_ok (a : AStore) (i : Info) (h : i.uid ≠ []) (uid' : Bytes) :
    (Spec.post a (.ok i.uid) (.ok i)).2 = 201 ∧
    (Spec.post a (.ok i.uid) (.ok i)).1.lookup uid' =
      if uid' = i.uid then some ((recOrNew (a.lookup i.uid)).update i) else a.lookup uid' := by
  simp [Spec.post, h, AL.lookup_set]

/-- anything the specification answers with a status other than 201/200 leaves the state unchanged,
and the read-only operations never change it -/
theorem spec_rejected_unchanged (a : AStore) (op : Op) (n : Nat) (h : (Spec.step a op).2 = .status n) (hn : 400 ≤ n) :
    (Spec.step a op).1 = a := by
  cases op with
  | post u b =>
    simp only [Spec.step, Out.status.injEq] at h ⊢
    cases u <;> cases b <;> simp only [Spec.post] at h ⊢
    split <;> try rfl
    split <;> try rfl
    rename_i h1 h2; simp [h1, h2] at h; omega
  | del u =>
    simp only [Spec.step, Out.status.injEq] at h ⊢
    cases u <;> simp only [Spec.del] at h ⊢
    split <;> try rfl
    rename_i h1; simp [h1] at h; omega
  | get u => rfl
  | list => rfl
  | auth _ _ => rfl
  | authz _ _ _ => rfl
  | upload _ _ => simp [Spec.step] at h
  | getUser _ _ => rfl
  | reopen => rfl

theorem spec_deleted_absent (a : AStore) (uid : Bytes) (h : (Spec.del a (.ok uid)).2 = 200) :
    Spec.get (Spec.del a (.ok uid)).1 (.ok uid) = (404, none) := by
  simp only [Spec.del] at h ⊢
  cases hl : a.lookup uid with
  | none => simp [hl] at h
  | some r => simp [Spec.get, AL.lookup_erase]

theorem spec_no_panic (a : AStore) (op : Op) (p : Panic) : (Spec.step a op).2 ≠ .panic p := by
  cases op <;> simp [Spec.step]

/-! ## 3. The property, about the executable model with the extracted facts -/

/-- **C18 (keyed store).** For every sequence of admin/manager operations on a fresh database —
create/update with any subset of the six fields and any values of the Go field types, reads, lists,
deletes, malformed / mismatching requests, authentications, authorisations, usage uploads,
activations, close/reopen — the concrete model (bytes in buckets, fixed-width decoding, HTTP handler
branches) answers every operation exactly as the abstract keyed store `US.Spec` does, and its final
store abstracts to the specification's.  The state is a function of the operation sequence only
(`reopen` is the identity: bbolt persists committed transactions — assumption). -/
theorem c18_refines (ops : List Op) (hw : ∀ op ∈ ops, op.WF) :
    (run genFacts [] ops).2 = (Spec.run [] ops).2 ∧ abs (run genFacts [] ops).1 = (Spec.run [] ops).1 := by
  have h := run_sim genFacts gen_good ops [] (by intro p hp; simp at hp) hw
  exact ⟨h.2.1, h.1⟩

/-- reachable stores are well-formed -/
theorem reachable_wf (ops : List Op) (hw : ∀ op ∈ ops, op.WF) : WFS (run genFacts [] ops).1 :=
  (run_sim genFacts gen_good ops [] (by intro p hp; simp at hp) hw).2.2

/-- **C18 (a rejected request changes nothing)**, on the concrete store itself: a POST not answered
201 and a DELETE not answered 200 return the very same store. -/
theorem c18_rejected_unchanged (s : Store) (u : Url) (b : Body) :
    ((postHlr genFacts s u b).2 ≠ 201 → (postHlr genFacts s u b).1 = s) ∧
    ((delHlr s u).2 ≠ 200 → (delHlr s u).1 = s) := by
  have hr : genFacts.postRetMismatch = true := gen_good.ret
  constructor
  · intro h
    cases u with
    | empty => rfl
    | bad => rfl
    | ok uid =>
      cases b with
      | bad => rfl
      | ok i =>
        simp only [postHlr, hr, and_true] at h ⊢
        split
        · rfl
        · rename_i hm
          have hm' : uid = i.uid := by
            cases hd : decide (uid = i.uid) <;> simp_all
          simp only [hm', ne_eq, not_true_eq_false, if_false, firstStatus] at h ⊢
          cases hwr : writeUserInfo s i with
          | error e => rfl
          | ok s' => simp [hwr, gen_status] at h
  · intro h
    cases u with
    | empty => rfl
    | bad => rfl
    | ok uid =>
      simp only [delHlr] at h ⊢
      cases hd : deleteUser s uid with
      | none => rfl
      | some s' => simp [hd, gen_status] at h

/-- **C18 (a deleted user is gone)** on the concrete model: after a DELETE answered 200, GET answers 404 -/
theorem c18_deleted_absent (s : Store) (hs : WFS s) (uid : Bytes) (h : (delHlr s (.ok uid)).2 = 200) :
    getHlr genFacts (delHlr s (.ok uid)).1 (.ok uid) = .ok (404, none) := by
  obtain ⟨d1, d2, d3⟩ := del_sim s hs (.ok uid)
  rw [get_sim genFacts gen_good _ d3, d1]
  rw [d2] at h
  rw [spec_deleted_absent _ uid h]

/-- **C18 (read your writes)** on the concrete model: after a create/update answered 201, GET of that UID
returns the previous record (all-zero if new) with exactly the mentioned fields replaced. -/
theorem c18_read_your_writes (s : Store) (hs : WFS s) (i : Info) (hi : InRange i) (hu : i.uid ≠ []) :
    (postHlr genFacts s (.ok i.uid) (.ok i)).2 = 201 ∧
    getHlr genFacts (postHlr genFacts s (.ok i.uid) (.ok i)).1 (.ok i.uid) =
      .ok (200, some ((recOrNew ((abs s).lookup i.uid)).update i)) := by
  obtain ⟨p1, p2, p3⟩ := post_sim genFacts gen_good s hs (.ok i.uid) (.ok i) (by intro j hj; cases hj; exact hi)
  obtain ⟨q1, q2⟩ := spec_post_ok (abs s) i hu i.uid
  refine ⟨by rw [p2, q1], ?_⟩
  rw [get_sim genFacts gen_good _ p3, p1]
  simp only [Spec.get, q2, if_true]

/-- **C18 (no crash).** In every state reachable through the API and the manager, no operation — reading
or listing a record, authenticating its owner, authorising a session, uploading usage, activating
the user (building the valve) — has the `panic` outcome. -/
theorem c18_no_panic (ops : List Op) (hw : ∀ op ∈ ops, op.WF) (op : Op) (hop : op.WF) (p : Panic) :
    (step genFacts (run genFacts [] ops).1 op).2 ≠ .panic p := by
  have hs := reachable_wf ops hw
  rw [(step_sim genFacts gen_good _ hs op hop).2.1]
  exact spec_no_panic _ _ _

/-! ### the value a read returned stays what the sequence implied -/

/-- a list result whose UIDs are copies reads back as it was returned, whatever has happened to the database
mapping since -/
theorem reread_own (F : Facts) (hc : F.listCopiesUID = true) (mem : Bytes → Bytes) (l : List (Bytes × Rec)) :
    rereadList mem (listHeld F l) = l := by
  induction l with
  | nil => rfl
  | cons p r ih =>
    simp only [rereadList, listHeld, List.map_cons, List.map_map] at ih ⊢
    rw [ih]
    simp [hc, Held.read]

/-- **C18 (a read returns what the sequence implies — and keeps doing so).** After any operation sequence, the
value `ListAllUsers` returns is the specification's list, and looking at that same value again after any
further operations — whatever bbolt has done to its pages in the meantime (`mem` arbitrary: commits recycle
freed pages, closing unmaps the file) — still gives exactly what was returned. -/
theorem c18_list_result_stable (ops : List Op) (hw : ∀ op ∈ ops, op.WF) (l : List (Bytes × Rec))
    (hl : (step genFacts (run genFacts [] ops).1 .list).2 = .users l) (mem : Bytes → Bytes) :
    l = (Spec.run [] ops).1 ∧ rereadList mem (listHeld genFacts l) = l := by
  refine ⟨?_, reread_own genFacts gen_good.copy mem l⟩
  have hs := reachable_wf ops hw
  have h := (step_sim genFacts gen_good _ hs .list trivial).2.1
  rw [hl, (c18_refines ops hw).2] at h
  simpa [Spec.step] using h

/-! ## 4. Non-vacuity -/

def uidA : Bytes := [1, 2, 3, 4, 5, 6, 7, 8, 9, 10, 11, 12, 13, 14, 15, 16]
def uidB : Bytes := [2, 2, 3, 4, 5, 6, 7, 8, 9, 10, 11, 12, 13, 14, 15, 16]
def onlyCap : Info := ⟨uidA, some (-1), none, none, none, none, none⟩
def rest : Info := ⟨uidA, none, some 0, some 9223372036854775807, some 5, some (-9223372036854775808), some 100⟩
def demo : List Op :=
  [.post (.ok uidA) (.ok onlyCap), .post (.ok uidA) (.ok rest), .post (.ok uidB) (.ok { rest with uid := uidB }),
   .post (.ok uidB) (.ok rest), .post (.ok uidA) .bad,
   .get (.ok uidA), .del (.ok uidB), .del (.ok uidB), .get (.ok uidB), .authz uidA 7 50, .upload [⟨uidA, 6, 1⟩] 200,
   .getUser uidA 50]

/-- the hypotheses of `c18_refines` hold for a script with a partial create, an update, an extreme
value, a rejected request, a double delete, a usage upload and an activation; the specification's
answers are the expected, non-trivial ones -/
example : (∀ op ∈ demo, op.WF) ∧
    (Spec.run [] demo).2 = [.status 201, .status 201, .status 201, .status 400, .status 400,
      .info 200 (some ⟨-1, 0, 9223372036854775807, 5, -9223372036854775808, 100⟩), .status 200, .status 500,
      .info 404 none, .authz .noDown, .resps [(uidA, .noUp), (uidA, .expired)],
      .user (.refused .noUp)] := by
  constructor
  · intro op h
    simp only [demo, List.mem_cons, List.mem_nil_iff, or_false] at h
    rcases h with rfl | rfl | rfl | rfl | rfl | rfl | rfl | rfl | rfl | rfl | rfl | rfl <;>
      simp [Op.WF, InRange, onlyCap, rest, In32, In64]
  · decide

/-! ## 5. The pinned tree: each of the four defects refutes the statement (explicit fact values) -/

theorem pinned_not_good : ¬ Good pinnedFacts := fun h => by
  have := h.ret; simp [pinnedFacts] at this

/-- (a) POST with URL uid A and body uid B is answered 400 and user B now exists -/
theorem pinned_mismatch_still_writes :
    (postHlr pinnedFacts [] (.ok uidA) (.ok ⟨uidB, some 3, none, none, none, none, none⟩)).2 = 400 ∧
    ((postHlr pinnedFacts [] (.ok uidA) (.ok ⟨uidB, some 3, none, none, none, none, none⟩)).1.lookup uidB).isSome = true := by
  decide

/-- (b) a record created from a subset of the fields makes every reader panic (index out of range) -/
theorem pinned_partial_record_panics :
    let s := (postHlr pinnedFacts [] (.ok uidA) (.ok onlyCap)).1
    (step pinnedFacts s (.get (.ok uidA))).2 = .panic .indexOutOfRange ∧
    (step pinnedFacts s .list).2 = .panic .indexOutOfRange ∧
    (step pinnedFacts s (.auth uidA 0)).2 = .panic .indexOutOfRange ∧
    (step pinnedFacts s (.authz uidA 0 0)).2 = .panic .indexOutOfRange ∧
    (step pinnedFacts s (.upload [⟨uidA, 1, 1⟩] 0)).2 = .panic .indexOutOfRange ∧
    (step pinnedFacts s (.getUser uidA 0)).2 = .panic .indexOutOfRange := by
  decide

/-- (c) a complete record whose rate is 0 panics in the token-bucket constructor when its owner
connects — also with the decoders and the handler already repaired -/
theorem pinned_nonpositive_rate_panics :
    let full : Info := ⟨uidA, some 1, some 0, some 5, some 5, some 5, some 100⟩
    (step pinnedFacts (postHlr pinnedFacts [] (.ok uidA) (.ok full)).1 (.getUser uidA 50)).2 = .panic .tokenBucket ∧
    (step ⟨fun l => decide (l < 8), fun l => decide (l < 4), true, fun _ _ => false, false⟩
      (postHlr pinnedFacts [] (.ok uidA) (.ok full)).1 (.getUser uidA 50)).2 = .panic .tokenBucket := by
  decide

/-- (d) `ListAllUsers` hands out the key slices of its finished read transaction: once a later commit has
recycled the page (the harness observes exactly this after two further writes: the 16 bytes now show a page
header) the list that was returned for `[uidA]` no longer says `uidA` -/
theorem pinned_list_result_unstable :
    let r : Rec := ⟨1, 2, 3, 4, 5, 6⟩
    rereadList (fun _ => [1, 0, 0, 0, 0x5e, 0, 0, 0, 0x10, 0, 0, 0, 0x3e, 0, 0, 0]) (listHeld pinnedFacts [(uidA, r)]) ≠ [(uidA, r)] ∧
    -- as long as the window still shows the transaction's bytes the defect is invisible
    rereadList id (listHeld pinnedFacts [(uidA, r)]) = [(uidA, r)] := by
  decide

/-- the statement of `c18_list_result_stable` is **false** for the pinned facts -/
theorem pinned_list_stable_false :
    ¬ ∀ (l : List (Bytes × Rec)) (mem : Bytes → Bytes), rereadList mem (listHeld pinnedFacts l) = l := by
  intro h
  have h1 := h [(uidA, ⟨1, 2, 3, 4, 5, 6⟩)] (fun _ => [])
  revert h1
  decide

/-- the statement of `c18_refines` is **false** for the pinned facts: (a) and (b) each give a well-formed
script whose concrete answers differ from the keyed-store specification -/
theorem pinned_refines_false :
    ¬ ∀ ops : List Op, (∀ op ∈ ops, op.WF) → (run pinnedFacts [] ops).2 = (Spec.run [] ops).2 := by
  intro h
  have h1 := h [.post (.ok uidA) (.ok ⟨uidB, some 3, none, none, none, none, none⟩), .get (.ok uidB)] (by
    intro op hop
    simp only [List.mem_cons, List.mem_nil_iff, or_false] at hop
    rcases hop with rfl | rfl <;> simp [Op.WF, InRange, In32, In64])
  revert h1
  decide

/-- the statement of `c18_no_panic` is **false** for the pinned facts (partial record; non-positive rate) -/
theorem pinned_no_panic_false :
    ¬ ∀ (ops : List Op), (∀ op ∈ ops, op.WF) → ∀ (op : Op), op.WF → ∀ p : Panic,
      (step pinnedFacts (run pinnedFacts [] ops).1 op).2 ≠ .panic p := by
  intro h
  have h1 := h [.post (.ok uidA) (.ok onlyCap)] (by
    intro op hop
    simp only [List.mem_cons, List.mem_nil_iff, or_false] at hop
    subst hop; simp [Op.WF, InRange, onlyCap, In32, In64]) (.auth uidA 0) trivial .indexOutOfRange
  revert h1
  decide

end C18

#print axioms C18.c18_refines
#print axioms C18.c18_no_panic
#print axioms C18.c18_rejected_unchanged
#print axioms C18.gen_structure
#print axioms C18.c18_list_result_stable
