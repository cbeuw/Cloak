import CloakModel.Model.SessionSM
import CloakModel.Lemmas.GenBridge

/-! # C12 — Faults tear a session down cleanly: prefixes only, nothing left blocked

Theorems about the session state machine `SM` (every interleaving of atomic steps):
* `c12_count`     — `activeStreamCount = #open streams` whenever no open/close is in flight;
* `c12_teardown`  — once `closeSession`'s locked section has run: the accept queue is closed, no
                    stream is open, and it stays that way (later opens / new-stream frames are refused);
* `c12_timeout`   — the inactivity check initiates a close only from count 0, hence (no open in flight)
                    only while no stream is open;
* `c12_conns`     — after `closeAll` every pooled connection is closed.
The first three and `c12_backlog_bounded` are the four fields of one invariant `Inv`, kept by every event (`step_inv`).
`gen_structure` ties the step boundaries to the Go source (regenerated facts).  The reader-side
prefix clause is C02/C03's pipe theorem (`c02_prefix_always`); wake-ups of parked goroutines are
runtime behaviour checked by the harness under `testing/synctest` (partial, see DESIGN). -/

namespace C12
open SM

/-- the facts of the Go source the model's step granularity rests on -/
theorem gen_structure :
    Gen.Session.openStreamCheckUnderLock = true ∧ Gen.Session.openStreamIncrs = 1 ∧
    Gen.Session.openStreamIncrAfterUnlock = true ∧
    Gen.Session.recvCheckUnderLock = true ∧ Gen.Session.recvInsertEnqueueUnderLock = true ∧
    Gen.Session.recvEnqueueNonBlocking = true ∧
    Gen.Session.recvTombstoneDrops = true ∧ Gen.Session.recvSessionCloseIsPassiveClose = true ∧
    Gen.Session.recvDecodeErrorReturnsFirst = true ∧
    Gen.Session.closeStreamCASFirst = true ∧ Gen.Session.closeStreamPipeCloseUnconditional = true ∧
    Gen.Session.closeStreamTombstoneUnderLockThenDecr = true ∧ Gen.Session.closeStreamDecrs = 1 ∧
    Gen.Session.closeStreamZeroAction = true ∧
    Gen.Session.closeSessionShape = true ∧ Gen.Session.closeSessionDecrsPerStream = 1 ∧
    Gen.Session.passiveCloseClosesAll = true ∧ Gen.Session.closeSendsNoticeThenClosesAll = true ∧
    Gen.Session.closeAllShape = true ∧ Gen.Session.deplexReadErrorPassiveCloses = true ∧
    Gen.Session.deplexContinuesAfterRecvError = true ∧ Gen.Session.deplexDefersConnClose = true ∧
    Gen.Session.timeoutCloses = true ∧ Gen.Session.acceptNilIsBroken = true := by and_intros <;> rfl

/-- the receive pipes hold a writer back (inside the stream's `recvM`) only beyond 2 GiB − 1 of unread data: below
that the hand-over of a frame to its buffer returns, which is what the teardown theorems and the lock-order theorem
assume of `sync.Cond.Wait` in `streamBufferedPipe.Write` / `datagramBufferedPipe.Write`.  (A lower limit makes the
parked receive loop reachable: seeded change `C12-3`, scenario `c12big.go`.) -/
theorem gen_pipe_limit (b : Nat) (h : b < 2^31) :
    Gen.Session.pipeWriteProceeds b = true ∧ Gen.Session.dgPipeWriteProceeds b = true ∧
    Gen.Session.recvBufferSizeLimit = 2^31 - 1 := by
  unfold Gen.Session.pipeWriteProceeds Gen.Session.dgPipeWriteProceeds
  refine ⟨?_, ?_, rfl⟩ <;> gen_bool

theorem gen_timeout (c : Int) (b : Bool) : Gen.Session.timeoutCond c b = true ↔ (c = 0 ∧ b = false) := by
  unfold Gen.Session.timeoutCond
  gen_bool

/-! ## table lemmas -/

theorem nOpen_setEnt_open (id : Nat) (to : Ent) (hto : to ≠ .opn) : ∀ (t : List (Nat × Ent)),
    (setEnt id .opn to t).2 = true → nOpen (setEnt id .opn to t).1 + 1 = nOpen t := by
  intro t
  induction t with
  | nil => simp [setEnt]
  | cons x r ih =>
    obtain ⟨i, e⟩ := x
    simp only [setEnt]
    by_cases h : i = id ∧ e = .opn
    · simp only [h, and_self, if_true]
      intro _
      cases to <;> simp_all [nOpen]
    · simp only [h, if_false]
      intro hf
      have := ih hf
      cases e <;> simp_all [nOpen] <;> omega

theorem nOpen_setEnt_other (id : Nat) (frm to : Ent) (hf : frm ≠ .opn) (hto : to ≠ .opn) : ∀ (t : List (Nat × Ent)),
    nOpen (setEnt id frm to t).1 = nOpen t := by
  intro t
  induction t with
  | nil => simp [setEnt]
  | cons x r ih =>
    obtain ⟨i, e⟩ := x
    simp only [setEnt]
    by_cases h : i = id ∧ e = frm
    · simp only [h, and_self, if_true]
      cases frm <;> cases to <;> simp_all [nOpen]
    · simp only [h, if_false]
      cases e <;> simp_all [nOpen]

theorem nOpen_sweep : ∀ (t : List (Nat × Ent)), nOpen (sweepTbl t) = 0 := by
  intro t
  induction t with
  | nil => rfl
  | cons x r ih =>
    obtain ⟨i, e⟩ := x
    cases e <;> simp [sweepTbl, nOpen, ih]

/-! ## the invariant -/

/-- what every reachable state of the session machine satisfies -/
structure Inv (s : St) : Prop where
  count : s.count = (nOpen s.tbl : Int) + s.pendDecr - s.pendIncr
  torn : s.swept = true → s.closed = true ∧ s.qclosed = true ∧ nOpen s.tbl = 0
  tmo : s.tmoBusy = false
  backlog : (s.accq.length : Int) ≤ Gen.Session.acceptBacklog

theorem step_inv (s : St) (e : Ev) (h : Inv s) : Inv (step s e).1 := by
  obtain ⟨hc, ht, hb, hq⟩ := h
  have hl : Gen.Session.openStreamCheckUnderLock = true := rfl
  have hi : Gen.Session.openStreamIncrs = 1 := rfl
  have hd : Gen.Session.closeStreamDecrs = 1 := rfl
  have hs : Gen.Session.closeSessionDecrsPerStream = 1 := rfl
  -- a stream is inserted only while `closed` is unset, hence not after the sweep
  have hins : ∀ {P : Prop}, ¬ s.closed = true → s.swept = true → P := fun hcl hsw => absurd (ht hsw).1 hcl
  cases e with
  | openCheck => simp only [step, hl, if_true]; exact ⟨hc, ht, hb, hq⟩
  | openInsert =>
    simp only [step, hl, if_true]
    split
    · exact ⟨hc, ht, hb, hq⟩
    · unfold insertOpen
      dsimp only
      split
      · exact ⟨hc, ht, hb, hq⟩
      · exact ⟨by dsimp only [nOpen]; omega, hins ‹_›, hb, hq⟩
  | openIncr =>
    simp only [step]
    split
    · exact ⟨hc, ht, hb, hq⟩
    · exact ⟨by dsimp only; omega, ht, hb, hq⟩
  | recvNew id =>
    simp only [step]
    split
    · exact ⟨hc, ht, hb, hq⟩
    · split
      · exact ⟨hc, ht, hb, hq⟩
      · split
        · split
          · exact ⟨by dsimp only [nOpen]; omega, hins ‹_›, hb, hq⟩
          · exact ⟨by dsimp only [nOpen]; omega, hins ‹_›, hb, hq⟩
        · exact ⟨by dsimp only [nOpen]; omega, hins ‹_›, hb, by
            dsimp only; rw [List.length_append]; simp only [List.length_cons, List.length_nil]; omega⟩
  | recvIncr =>
    simp only [step]
    split
    · exact ⟨hc, ht, hb, hq⟩
    · exact ⟨by dsimp only; omega, ht, hb, hq⟩
  | csCAS id =>
    simp only [step]
    split
    · have := nOpen_setEnt_open id .closing (by decide) s.tbl ‹_›
      exact ⟨by dsimp only; omega, fun hsw => ⟨(ht hsw).1, (ht hsw).2.1, by have := (ht hsw).2.2; dsimp only; omega⟩, hb, hq⟩
    · exact ⟨hc, ht, hb, hq⟩
  | csTomb id =>
    simp only [step]
    have := nOpen_setEnt_other id .closing .tomb (by decide) (by decide) s.tbl
    split
    · exact ⟨by dsimp only; omega, fun hsw => ⟨(ht hsw).1, (ht hsw).2.1, by have := (ht hsw).2.2; dsimp only; omega⟩, hb, hq⟩
    · exact ⟨by dsimp only [nOpen]; omega, fun hsw => ⟨(ht hsw).1, (ht hsw).2.1, (ht hsw).2.2⟩, hb, hq⟩
  | csDecr =>
    simp only [step]
    split
    · exact ⟨hc, ht, hb, hq⟩
    · exact ⟨by dsimp only; omega, ht, hb, hq⟩
  | cas =>
    simp only [step]
    split
    · exact ⟨hc, ht, hb, hq⟩
    · exact ⟨hc, fun hsw => ⟨rfl, (ht hsw).2⟩, hb, hq⟩
  | sweep =>
    simp only [step]
    split
    · exact ⟨by dsimp only; rw [nOpen_sweep, hs]; omega, fun _ => ⟨‹_›, rfl, nOpen_sweep _⟩, hb, hq⟩
    · exact ⟨hc, ht, hb, hq⟩
  | closeAll =>
    simp only [step]
    split <;> exact ⟨hc, ht, hb, hq⟩
  | accept =>
    simp only [step]
    split
    · exact ⟨hc, ht, hb, hq⟩
    · split
      · rename_i hacc
        exact ⟨hc, ht, hb, by rw [hacc, List.length_cons] at hq; dsimp only; omega⟩
      · split <;> exact ⟨hc, ht, hb, hq⟩
  | checkTimeout =>
    simp only [step]
    split
    · rename_i hcond
      -- the test saw count 0: with no insert awaiting its count++ that means no open stream
      have := (gen_timeout _ _).1 hcond
      refine ⟨hc, ht, ?_, hq⟩
      simp only [hb, Bool.false_or, Bool.and_eq_false_iff, decide_eq_false_iff_not]
      by_cases hp : s.pendIncr = 0
      · left; omega
      · right; exact hp
    · exact ⟨hc, ht, hb, hq⟩
  | tmoCas =>
    simp only [step]
    split
    · split
      · exact ⟨hc, ht, hb, hq⟩
      · exact ⟨hc, fun hsw => ⟨rfl, (ht hsw).2⟩, hb, hq⟩
    · exact ⟨hc, ht, hb, hq⟩
  | addConn => exact ⟨hc, ht, hb, hq⟩

theorem run_inv (evs : List Ev) (s : St) (h : Inv s) : Inv (run s evs) :=
  List.foldlRecOn evs _ h (fun s hs e _ => step_inv s e hs)

theorem init_inv (sp : Bool) : Inv (init sp) :=
  ⟨by simp [init, nOpen], by simp [init], rfl, by simp [init]; decide⟩

/-- **C12 (stream count).** For every interleaving of the atomic steps of OpenStream, incoming new
streams, closeStream, closeSession, closeAll, Accept, checkTimeout and AddConnection, in every
reachable state `activeStreamCount = #open + (#closed-not-yet-discounted) − (#inserted-not-yet-counted)`;
in particular at every quiescent moment (nothing in flight) the count equals the number of open streams. -/
theorem c12_count (sp : Bool) (evs : List Ev) :
    let s := run (init sp) evs
    s.count = (nOpen s.tbl : Int) + s.pendDecr - s.pendIncr ∧
    (s.pendIncr = 0 → s.pendDecr = 0 → s.count = nOpen s.tbl) := by
  have h := (run_inv evs _ (init_inv sp)).count
  exact ⟨h, fun h1 h2 => by omega⟩

/-! ## teardown -/

/-- **C12 (teardown).** For every interleaving: once the locked section of `closeSession` has run,
the accept queue is closed and no stream is open — and this remains true under ANY later steps, i.e.
every later `OpenStream` and every later frame for a new stream is refused (they cannot produce an
open stream).  Needs `OpenStream`'s closed-test to be inside the `streamsM` section (regenerated fact). -/
theorem c12_teardown (sp : Bool) (evs : List Ev) :
    let s := run (init sp) evs
    s.swept = true → s.closed = true ∧ s.qclosed = true ∧ nOpen s.tbl = 0 :=
  (run_inv evs _ (init_inv sp)).torn

/-- after the sweep an `OpenStream` is refused and an `Accept` on the drained queue returns the error -/
theorem c12_refuses (s : St) (h : s.closed = true) :
    (step s .openInsert).2 = .refused ∧ (∀ id, (step s (.recvNew id)).2 = .refused) ∧
    (s.qclosed = true → s.accq = [] → (step s .accept).2 = .refused) := by
  obtain ⟨hl, _⟩ := gen_structure
  refine ⟨by simp [step, hl, h], by intro id; simp [step, h], ?_⟩
  intro hq ha; simp [step, hq, ha, h]

/-- a connection handed to a torn-down session is closed, not kept: `addConn` tests the teardown under the mutex under which
`closeAll` sweeps, so every connection is either stored before the sweep (and closed by it) or refused (and closed) after it
(`c12_conns`: all stored connections end up closed) -/
theorem gen_late_conn : Gen.Session.addConnRefusesAfterTeardown = true ∧ Gen.Session.closeSweepsEvenIfNoticeFails = true := ⟨rfl, rfl⟩

/-- closing a receive buffer wakes every parked reader (a `Signal` would wake one and leave the others parked for
ever: "every blocked read ... returns"); runtime wake-ups themselves are the monitors' part (scenario c12many.go) -/
theorem gen_wake_all : Gen.Session.streamPipeCloseWakesAll = true ∧ Gen.Session.dgramPipeCloseWakesAll = true := ⟨rfl, rfl⟩

/-- `Accept` does not look at the closed flag before the queue (it did before /repo's fix) -/
theorem gen_accept : Gen.Session.acceptChecksClosedFirst = false := rfl

/-- **C03/C12 (a stream that was queued when the session closed is still handed to `Accept`).**  Whatever the state —
closed, swept, broken — an `Accept` takes the oldest queued stream; only the drained queue refuses.  So a short singleplex
exchange (the peer opens, writes B, closes, its session-closing notice is processed) is not lost when this side gets to
`Accept` late: the stream is accepted and, its buffer having been closed by the sweep, reads B and then the error. -/
theorem c12_accept_drains_queue (s : St) (id : Nat) (r : List Nat) (h : s.accq = id :: r) :
    step s .accept = ({ s with accq := r }, .ok) := by
  simp [step, gen_accept, h]

/-- the old shape: with the closed test first the queued stream is never handed over -/
theorem c12_accept_closed_first_witness (s : St) (h : s.closed = true) :
    (if true && s.closed then (s, Res.refused) else (match s.accq with | _ :: r => ({ s with accq := r }, Res.ok) | [] => (s, Res.block))).2 = .refused := by
  simp [h]

/-! ## inactivity timer -/

/-- **C12 (inactivity timer).** In every interleaving, `checkTimeout` never initiates a close at a
moment when a stream is open and no `OpenStream`/incoming-stream is between its insert and its
count++ — i.e. the timer closes a session only while it has no open stream. -/
theorem c12_timeout (sp : Bool) (evs : List Ev) : (run (init sp) evs).tmoBusy = false :=
  (run_inv evs _ (init_inv sp)).tmo

/-- the accept queue never holds more than the backlog: the enqueue under `streamsM` can therefore always be the
non-blocking `select` case (this is what removes the one blocking operation under a lock that `c12_lock_order` used to
assume away) -/
theorem c12_backlog_bounded (sp : Bool) (evs : List Ev) :
    ((run (init sp) evs).accq.length : Int) ≤ max Gen.Session.acceptBacklog 0 := by
  have := (run_inv evs _ (init_inv sp)).backlog
  omega

/-! ## the inactivity timer, full statement (open finding) -/

/-- the property as stated: the timer closes a session ONLY WHILE it has no open stream — at the moment the timer
goroutine's `Close()` takes effect (its CAS on `closed`), no stream is open -/
def c12_timeout_full : Prop := ∀ (sp : Bool) (evs : List Ev), (run (init sp) evs).tmoCasBusy = false

/-- **C12 (open finding).** `checkTimeout` tests `streamCount() == 0 && !IsClosed()` and only then calls `Close()`:
a stream opened in between is closed with the session. Five-step witness; `c12_timeout` above is the partial
statement that does hold (the timer never *initiates* a close while a stream is open). -/
theorem c12_timeout_witness : ¬ c12_timeout_full := by
  intro h
  have := h false [.checkTimeout, .openCheck, .openInsert, .openIncr, .tmoCas]
  revert this
  have := gen_structure
  decide

/-- **C12 (connections).** `closeAll` leaves every pooled connection closed. -/
theorem c12_conns (s : St) (h : s.broken = false) : ∀ c ∈ (step s .closeAll).1.conns, c = false := by
  simp [step, h]

/-! ## the pinned `OpenStream` (closed-test outside the lock) breaks the teardown clause: explicit
witness about the *pinned* step function, independent of `Gen` -/
def stepPinnedOpen (s : St) : Ev → St
  | .openCheck => if s.closed then s else { s with passed := s.passed + 1 }
  | .openInsert => match s.passed with
      | 0 => s
      | n + 1 => (insertOpen { s with passed := n }).1
  | .cas => { s with closed := true }
  | .sweep => if s.closed then { s with swept := true, qclosed := true, tbl := sweepTbl s.tbl } else s
  | _ => s

theorem c12_pinned_open_witness :
    let s := [Ev.openCheck, .cas, .sweep, .openInsert].foldl stepPinnedOpen (init false)
    s.swept = true ∧ nOpen s.tbl = 1 := by decide

/-- non-vacuity: a run that opens two streams, closes one, then tears the session down -/
example : let s := run (init false) [.openCheck, .openInsert, .openIncr, .recvNew 7, .recvIncr, .csCAS 1, .csTomb 1, .csDecr, .cas, .sweep]
    s.swept = true ∧ s.count = 0 ∧ s.tbl = [(1, .tomb)] := by
  have := gen_structure
  decide

end C12

#print axioms C12.c12_count
#print axioms C12.c12_teardown
#print axioms C12.c12_timeout
