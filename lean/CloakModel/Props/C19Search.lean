import CloakModel.Props.C19Int64

/-! # C19 — the constructor finds a `(quantum, fillInterval)` within 1 % of every rate `MakeValve` can ask for

`juju/ratelimit`'s `NewBucketWithRate` PANICS when its search over quanta finds nothing, and the bound proofs and the
`int64` exactness (`c19_refill_fits`) take "the real rate is within 1 % of the configured one" as a hypothesis. Here, for
the search in exact arithmetic (`TB.search`, compared with the real constructor's choice for every rate the harness
builds):

* `search_sound` — whatever it returns is positive, below `2⁵⁰`, is `⌊10⁹·q/rate⌋`, and within 1 %;
* `c19_search_total` — for every rate from 1 to `2³⁴` (what `MakeValve` passes after its cap) it returns something: the
  constructor does not panic, whatever the administrator wrote;
* `c19_made_buckets_fit` — so every bucket `MakeValve` makes meets the hypotheses of `c19_refill_fits`.

Modelled, not proved: the constructor computes in `float64`; for integer rates up to `2³⁴` and the quanta the search
visits, the quotient `10⁹·q/rate` is far enough from an integer boundary for the rounded division to truncate to the same
value, and the 1 % test is not within rounding distance of equality unless `10¹¹·q = 101·rate·fi` exactly (the harness
skips the comparison for such a rate). -/

namespace C19
open TB

theorem gen_search : Gen.Valve.tbSearchShape = true ∧ Gen.Valve.tbNextQuantumShape = true ∧ Gen.Valve.tbRateMarginText = "0.01" := by
  and_intros <;> rfl

theorem nextQ_bounds (q : Int) (hq : 1 ≤ q) : q < nextQ q ∧ nextQ q ≤ q + q / 10 + 1 := by
  unfold nextQ Gen.Valve.tbNextQuantumFirst
  rw [Int.tdiv_eq_ediv_of_nonneg (by omega)]
  simp only
  split <;> omega

theorem within_iff (q fi rate : Int) : within q fi rate = true ↔ 100 * ((q * 1000000000 - rate * fi).natAbs : Int) ≤ rate * fi := by
  unfold within; simp only [decide_eq_true_eq]

/-- once `⌊10⁹·q/rate⌋ ≥ 100` the candidate is within 1 % -/
theorem within_of_fi_ge (q rate : Int) (hr : 0 < rate) (hq : 0 ≤ q) (h100 : 100 ≤ 1000000000 * q / rate) :
    within q (1000000000 * q / rate) rate = true := by
  rw [within_iff]
  have h1 : rate * (1000000000 * q / rate) ≤ 1000000000 * q := Int.mul_ediv_self_le (Int.ne_of_gt hr)
  have h2 : 1000000000 * q < rate * (1000000000 * q / rate) + rate := Int.lt_mul_ediv_self_add hr
  have h3 : rate * 100 ≤ rate * (1000000000 * q / rate) := Int.mul_le_mul_of_nonneg_left h100 (Int.le_of_lt hr)
  generalize rate * (1000000000 * q / rate) = x at h1 h2 h3 ⊢
  omega

theorem search_sound (rate : Int) : ∀ (n : Nat) (q q' fi : Int), 1 ≤ q → searchFrom rate n q = some (q', fi) →
    q ≤ q' ∧ q' < 2^50 ∧ 0 < fi ∧ fi = 1000000000 * q' / rate ∧ within q' fi rate = true := by
  intro n
  induction n with
  | zero => intro q q' fi _ h; simp [searchFrom] at h
  | succ n ih =>
    intro q q' fi hq h
    unfold searchFrom at h
    by_cases hlt : q < 2^50
    · simp only [hlt, if_true] at h
      have hnx := nextQ_bounds q hq
      by_cases hz : 1000000000 * q / rate ≤ 0
      · simp only [hz, if_true] at h
        have := ih (nextQ q) q' fi (by omega) h
        exact ⟨by omega, this.2⟩
      · simp only [hz, if_false] at h
        by_cases hw : within q (1000000000 * q / rate) rate = true
        · simp only [hw, if_true, Option.some.injEq, Prod.mk.injEq] at h
          obtain ⟨h1, h2⟩ := h
          subst h1; subst h2
          exact ⟨Int.le_refl _, hlt, by omega, rfl, hw⟩
        · simp only [hw, if_false] at h
          have := ih (nextQ q) q' fi (by omega) h
          exact ⟨by omega, this.2⟩
    · simp only [hlt, if_false] at h; exact absurd h (by simp)

/-- the first quantum that certainly passes: `⌈100·rate/10⁹⌉` -/
def qEnough (rate : Int) : Int := (100 * rate + 1000000000 - 1) / 1000000000

theorem fi_ge_of_q_ge (rate q : Int) (hr : 0 < rate) (hq : qEnough rate ≤ q) : 100 ≤ 1000000000 * q / rate := by
  unfold qEnough at hq
  have : 100 * rate ≤ 1000000000 * q := by omega
  exact (Int.le_ediv_iff_mul_le hr).2 this

theorem search_some (rate : Int) (hr : 0 < rate) (hT : 2 * qEnough rate + 2 < 2^50) :
    ∀ (n : Nat) (q : Int), 1 ≤ q → q ≤ 2 * qEnough rate + 2 → 1 ≤ n → qEnough rate + 1 ≤ q + n →
      (searchFrom rate n q).isSome = true := by
  intro n
  induction n with
  | zero => intro q _ _ h; omega
  | succ n ih =>
    intro q hq hqle _ hfuel
    unfold searchFrom
    have hlt : q < 2^50 := by omega
    simp only [hlt, if_true]
    have hnx := nextQ_bounds q hq
    by_cases hge : qEnough rate ≤ q
    · have h100 := fi_ge_of_q_ge rate q hr hge
      have hw := within_of_fi_ge q rate hr (by omega) h100
      have hz : ¬ (1000000000 * q / rate ≤ 0) := by omega
      simp only [hz, if_false, hw, if_true, Option.isSome_some]
    · have hn1 : 1 ≤ n := by omega
      have hrec := ih (nextQ q) (by omega) (by omega) hn1 (by omega)
      by_cases hz : 1000000000 * q / rate ≤ 0
      · simp only [hz, if_true]; exact hrec
      · simp only [hz, if_false]
        by_cases hw : within q (1000000000 * q / rate) rate = true
        · simp only [hw, if_true, Option.isSome_some]
        · simp only [hw, if_false]; exact hrec

/-- **C19 (the constructor never panics for a rate `MakeValve` can pass).** -/
theorem c19_search_total (rate : Int) (h1 : 1 ≤ rate) (hcap : rate ≤ 2^34) : ∃ q fi, search rate = some (q, fi) := by
  have hT : qEnough rate ≤ 1718 := by unfold qEnough; omega
  have hT0 : 0 ≤ qEnough rate := by unfold qEnough; omega
  have := search_some rate (by omega) (by omega) 4000 1 (by omega) (by omega) (by omega) (by omega)
  unfold search
  cases h : searchFrom rate 4000 1 with
  | none => simp [h] at this
  | some p => exact ⟨p.1, p.2, rfl⟩

/-- **C19 (every bucket `MakeValve` makes is one `c19_refill_fits` speaks about).** For a rate between 1 and the cap read
from the source, the pair the search returns is positive and its real rate is at most 1 % above the rate. -/
theorem c19_made_buckets_fit (rate q fi : Int) (h1 : 1 ≤ rate) (h : search rate = some (q, fi)) :
    0 < q ∧ 0 < fi ∧ q * 100000000000 ≤ 101 * rate * fi := by
  have hs := search_sound rate 4000 1 q fi (by omega) h
  obtain ⟨hq, _, hfi, _, hw⟩ := hs
  rw [within_iff] at hw
  refine ⟨by omega, hfi, ?_⟩
  have : 101 * rate * fi = 101 * (rate * fi) := by ac_rfl
  rw [this]
  generalize rate * fi = x at hw ⊢
  omega

/-- the search on concrete rates (what the real constructor chose, as the harness reads it from the bucket) -/
example : search 1 = some (1, 1000000000) ∧ search 1000 = some (1, 1000000) ∧ search 123457 = some (1, 8099) ∧
    search (2^34) = some (86, 5) := by
  and_intros <;> decide

end C19

/-! ## "let through" is not "sent": reservations of a session that is closed

`c19_not_starved` counts what the bucket has LET THROUGH. A turn at the bucket (`txWait`) deducts its tokens at once and
cannot hand them back; a sender whose session is closed while it waits for its turn sends nothing. In the pinned tree every
sender of a session reserved at once (`send` began with `txWait`, before it looked at the switchboard): with `K` waiting
senders the user's other session waited behind `K` frames' worth of tokens that were never used — the literal clause ("the
bytes the server sends ... a backlogged sender is not held below that rate") fails for bytes SENT
(`c19_sent_lower_full`, `c19_burnt_tokens_witness`; the fourth red-team round's finding, ./check C19 scenario c19burnt.go).
Since /repo's fix the senders of a session take their turns one at a time and none once the switchboard is broken
(`Gen.Valve.txWaitOneAtATime`: a channel of capacity one around the broken test and the wait, nothing else inside): a
closed session leaves at most ONE reservation behind, and `c19_sent_lower_bounded` gives the clause with that slack. -/
namespace C19

/-- the property's lower clause at full strength, about bytes SENT: among the requests `(tick, count, sent?)` of any
history on a bucket that starts full, whenever some sender whose frame will be sent is still waiting at tick `t`, the
bytes sent up to `t` exceed `cap + q·t − M − (what was let through for frames that were not sent)` WITHOUT that last
term -/
def c19_sent_lower_full (cap q : Int) : Prop :=
  ∀ (reqs : List (Int × Int × Bool)) (M t : Int), (∀ r ∈ reqs, 0 < r.2.1 ∧ r.2.1 ≤ M) → 0 ≤ t →
    let rel := TB.run cap q ⟨cap, 0⟩ (reqs.map (fun r => (r.1, r.2.1)))
    (∃ p ∈ rel.zip reqs, p.2.2.2 = true ∧ t < p.1.1) →
    cap + q * t - M < ((rel.zip reqs).filter (fun p => p.2.2.2 && decide (p.1.1 ≤ t))).foldl (fun a p => a + p.1.2) 0

/-- five writers of a session reserve 100 tokens each at tick 0 (capacity 100, one token per tick); the session is closed
at tick 1, so only the first frame is sent; the user's other session asks for 10 tokens at tick 1 and is let through at
tick 410: at tick 300 it is still waiting, `cap + q·t − M = 300`, and 100 bytes have been sent -/
theorem c19_burnt_tokens_witness : ¬ c19_sent_lower_full 100 1 := by
  intro h
  have := h [(0, 100, true), (0, 100, false), (0, 100, false), (0, 100, false), (0, 100, false), (1, 10, true)] 100 300
    (by decide) (by decide)
  revert this
  decide

/-- the source takes the turns one at a time -/
theorem gen_turnstile : Gen.Valve.txWaitOneAtATime = true ∧ Gen.Valve.txWaitBeforeWrite = true := by and_intros <;> rfl

/-- **C19 (lower clause for bytes sent, with the slack the turnstile leaves).** Whatever is let through is either sent or
belongs to a sender whose session was closed while it waited; if those unsent reservations add up to at most `burnt`
(one frame, `≤ M`, per session closed so far), the single backlogged sender of `c19_not_starved` has been SENT more than
`cap + q·t − M − burnt` by every tick `t` at which it still waits. -/
theorem c19_sent_lower_bounded (cap q M burnt sent : Int) (hq : 0 < q) (hqc : q ≤ cap + 1) (cs : List Int)
    (hcs : ∀ c ∈ cs, 0 < c ∧ c ≤ M) (t : Int) (ht : 0 ≤ t)
    (hp : ∃ x ∈ runBL cap q ⟨cap, 0⟩ 0 cs, t < x.1)
    (hsent : releasedBy t (runBL cap q ⟨cap, 0⟩ 0 cs) - burnt ≤ sent) :
    cap + q * t - M - burnt < sent := by
  have := c19_not_starved cap q M hq hqc cs hcs t ht hp
  omega

/-- what the bucket answers in that history: release ticks 0, 100, 200, 300, 400 for the closed session's frames, 410 for the other session -/
example : TB.run 100 1 ⟨100, 0⟩ [(0, 100), (0, 100), (0, 100), (0, 100), (0, 100), (1, 10)] =
    [(0, 100), (100, 100), (200, 100), (300, 100), (400, 100), (410, 10)] := by decide

end C19
